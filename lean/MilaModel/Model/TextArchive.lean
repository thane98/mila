/-
Model of `src/text_archive.rs` (after the fix commits D15, D16), statement by statement.

* `entries : IndexMap<String, String>` is an association list whose order is the map's order
  (`indexmap`: `entry(k).or_default()` + assignment = replace in place or append; `shift_remove` =
  order-preserving removal; `insert` = same as the former).
* `str::replace(from, to)` is `strReplace`: leftmost, non-overlapping replacement.  Strings are
  UTF-8 bytes; both patterns used here are ASCII, and an ASCII byte never occurs inside a
  multi-byte UTF-8 sequence, so replacement on bytes is replacement on chars.
* The Shift-JIS codec is a parameter (`Codec`); UTF-16 is modelled exactly (`Model/Utf16`).
-/
import MilaModel.Basic
import MilaModel.Model.Codec
import MilaModel.Model.BinArchive
import MilaModel.Model.BinStreams
import MilaModel.Model.Utf16

namespace Mila

/-- `TextArchiveFormat` (`text_archive.rs:27-31`). -/
inductive TextFormat
  | shiftJIS | unicode
  deriving DecidableEq, Repr

/-- `TextArchive` (`text_archive.rs:33-39`). -/
structure TextArchive where
  title : Str
  entries : List (Str × Str)
  dirty : Bool
  format : TextFormat
  endian : Endian
  deriving Repr, DecidableEq

namespace TextArchive

/-! ### `IndexMap` operations -/

def imGet (m : List (Str × Str)) (k : Str) : Option Str :=
  (m.find? (fun p => p.1 = k)).map (·.2)

def imContains (m : List (Str × Str)) (k : Str) : Bool := m.any (fun p => p.1 = k)

/-- `*map.entry(k).or_default() = v` and `map.insert(k, v)`: an existing key keeps its place. -/
def imSet (m : List (Str × Str)) (k v : Str) : List (Str × Str) :=
  if imContains m k then m.map (fun p => if p.1 = k then (p.1, v) else p)
  else m ++ [(k, v)]

/-- `shift_remove`. -/
def imRemove (m : List (Str × Str)) (k : Str) : List (Str × Str) :=
  m.filter (fun p => ¬ p.1 = k)

/-! ### `str::replace` -/

/-- `s.replace(pat, rep)` for a non-empty pattern: scan left to right; at a position where `pat`
matches emit `rep` and continue **after** the match (`skip` counts the matched elements still to be
passed over), otherwise copy one element. -/
def strReplaceGo {α : Type} [DecidableEq α] (pat rep : List α) : Nat → List α → List α
  | _, [] => []
  | skip + 1, _ :: xs => strReplaceGo pat rep skip xs
  | 0, x :: xs =>
    if pat.isPrefixOf (x :: xs) then rep ++ strReplaceGo pat rep (pat.length - 1) xs
    else x :: strReplaceGo pat rep 0 xs

def strReplace {α : Type} [DecidableEq α] (pat rep s : List α) : List α := strReplaceGo pat rep 0 s

def backslash : UInt8 := 0x5C
def letterN : UInt8 := 0x6E
def newline : UInt8 := 0x0A

/-- `message.replace("\\n", "\n")` (`:138`). -/
def unescape (m : Str) : Str := strReplace [backslash, letterN] [newline] m

/-- `value.replace('\n', "\\n")` (`:134`). -/
def escape (m : Str) : Str := strReplace [newline] [backslash, letterN] m

/-! ### map API (`:42-54`, `:117-146`) -/

def new (format : TextFormat) (endian : Endian) : TextArchive :=
  ⟨[], [], false, format, endian⟩

def getTitle (t : TextArchive) : Str := t.title
def setTitle (t : TextArchive) (s : Str) : TextArchive := { t with title := s }
def hasMessage (t : TextArchive) (k : Str) : Bool := imContains t.entries k
def deleteMessage (t : TextArchive) (k : Str) : TextArchive :=
  { t with entries := imRemove t.entries k }
def getMessage (t : TextArchive) (k : Str) : Option Str := (imGet t.entries k).map escape
def setMessage (t : TextArchive) (k m : Str) : TextArchive :=
  { t with entries := imSet t.entries k (unescape m), dirty := true }
def isDirty (t : TextArchive) : Bool := t.dirty

/-! ### serialisation (`:8-25`, `:89-115`) -/

open BinArchive (padTo4)

/-- `write_shift_jis_string` (`:8-15`). -/
def writeSjisString (c : Codec) (bytes : Bytes) (s : Str) : Res Bytes :=
  match c.enc s with
  | none => .err .Encoding
  | some b => .ok (padTo4 (bytes ++ b ++ [0]))

/-- `write_utf_16_string` (`:17-25`). -/
def writeUtf16String (bytes : Bytes) (s : Str) : Res Bytes :=
  match Utf.toUtf16 s with
  | .ok u => .ok (padTo4 (bytes ++ u ++ [0, 0]))
  | .err e => .err e
  | .panic => .panic

def writeMessage (c : Codec) (f : TextFormat) (bytes : Bytes) (s : Str) : Res Bytes :=
  match f with
  | .shiftJIS => writeSjisString c bytes s
  | .unicode => writeUtf16String bytes s

/-- The loop `:97-103`: `(bytes, label_info)`. -/
def writeEntries (c : Codec) (f : TextFormat) :
    Bytes → List (Str × Nat) → List (Str × Str) → Res (Bytes × List (Str × Nat))
  | bytes, info, [] => .ok (bytes, info)
  | bytes, info, (k, v) :: rest =>
    match writeMessage c f bytes v with
    | .ok bytes' => writeEntries c f bytes' (info ++ [(k, bytes.length)]) rest
    | .err e => .err e
    | .panic => .panic

/-- The loop `:110-112`. -/
def writeLabels : BinArchive → List (Str × Nat) → Res BinArchive
  | a, [] => .ok a
  | a, (label, address) :: rest =>
    match a.writeLabel address label with
    | .ok a' => writeLabels a' rest
    | .err e => .err e
    | .panic => .panic

/-- `:90-103`: the data image and the label table. -/
def buildData (c : Codec) (t : TextArchive) : Res (Bytes × List (Str × Nat)) :=
  match t.format with
  | .unicode =>
    match writeSjisString c [] t.title with
    | .ok bytes => writeEntries c t.format bytes [] t.entries
    | .err e => .err e
    | .panic => .panic
  | .shiftJIS => writeEntries c t.format [] [] t.entries

/-- `:90-112`: the bin archive handed to `BinArchive::serialize`. -/
def buildArchive (c : Codec) (t : TextArchive) : Res BinArchive :=
  match buildData c t with
  | .ok (bytes, info) =>
    let archive := (BinArchive.new t.endian).allocateAtEnd bytes.length
    -- fix D16: `write_bytes(0, &[])` on an empty archive is skipped
    match (if bytes.isEmpty then .ok archive else archive.writeBytes 0 bytes) with
    | .ok archive => writeLabels archive info
    | .err e => .err e
    | .panic => .panic
  | .err e => .err e
  | .panic => .panic

/-- `TextArchive::serialize`. -/
def serialize (c : Codec) (t : TextArchive) : Res Bytes :=
  match buildArchive c t with
  | .ok a => a.serialize c
  | .err e => .err e
  | .panic => .panic

/-! ### parsing (`:56-87`; `encoded_strings.rs:73-89`) -/

/-- `BinArchiveReader::read_utf_16_string` (`encoded_strings.rs:82-88`). -/
def readUtf16Aligned (a : BinArchive) (r : Reader) : Res (Str × Reader) :=
  match Utf.utf16Raw (a.data.drop r.pos) with
  | none => .err .Unterminated
  | some raw =>
    match Utf.decodeUtf16 raw with
    | .ok s => .ok (s, ⟨Reader.alignUp (r.pos + raw.length + 2)⟩)
    | .err e => .err e
    | .panic => .panic

def readMessage (c : Codec) (f : TextFormat) (a : BinArchive) (r : Reader) : Res (Str × Reader) :=
  match f with
  | .shiftJIS => Reader.readSjisAligned c a r
  | .unicode => readUtf16Aligned a r

theorem alignUp_ge (p : Nat) : p ≤ Reader.alignUp p := by unfold Reader.alignUp; omega

/-- Every successful message read moves the cursor forward: the `while` loop of `from_archive`
terminates. -/
theorem readMessage_progress {c : Codec} {f : TextFormat} {a : BinArchive} {r r' : Reader} {m : Str}
    (h : readMessage c f a r = .ok (m, r')) : r.pos < r'.pos := by
  cases f with
  | shiftJIS =>
    simp only [readMessage, Reader.readSjisAligned] at h
    split at h
    · cases h
      exact Nat.lt_of_lt_of_le (by omega) (alignUp_ge _)
    · cases h
  | unicode =>
    simp only [readMessage, readUtf16Aligned] at h
    split at h
    · cases h
    · split at h
      · cases h
        exact Nat.lt_of_lt_of_le (by omega) (alignUp_ge _)
      · cases h
      · cases h

set_option linter.unusedVariables false in
/-- The `while reader.tell() < archive.size()` loop (`:76-85`); `hm` feeds the termination proof. -/
def fromLoop (c : Codec) (f : TextFormat) (a : BinArchive) (pos : Nat) (entries : List (Str × Str)) :
    Res (List (Str × Str)) :=
  if pos < a.size then
    match BinArchive.readLabels a pos with
    | .ok labels =>
      match hm : readMessage c f a ⟨pos⟩ with
      | .ok (message, r') =>
        fromLoop c f a r'.pos
          (match (labels.getD []).head? with
           | some k => imSet entries k message
           | none => entries)
      | .err e => .err e
      | .panic => .panic
    | .err e => .err e
    | .panic => .panic
  else .ok entries
termination_by a.size - pos
decreasing_by
  have := readMessage_progress hm
  simp only at this
  omega

/-- `TextArchive::from_archive` (`:66-87`). -/
def fromArchive (c : Codec) (a : BinArchive) (f : TextFormat) (e : Endian) : Res TextArchive :=
  let t := new f e
  match f with
  | .unicode =>
    match Reader.readSjisAligned c a ⟨0⟩ with
    | .ok (title, r) =>
      match fromLoop c f a r.pos [] with
      | .ok entries => .ok { t with title := title, entries := entries }
      | .err er => .err er
      | .panic => .panic
    | .err er => .err er
    | .panic => .panic
  | .shiftJIS =>
    match fromLoop c f a 0 [] with
    | .ok entries => .ok { t with entries := entries }
    | .err er => .err er
    | .panic => .panic

/-- `TextArchive::from_bytes` (`:56-64`). -/
def fromBytes (c : Codec) (raw : Bytes) (f : TextFormat) (e : Endian) : Res TextArchive :=
  match BinArchive.parse c e raw with
  | .ok a => fromArchive c a f e
  | .err er => .err er
  | .panic => .panic

end TextArchive
end Mila
