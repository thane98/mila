/-
Model of `src/aset.rs` (`ASetFile::from_archive`, `ASetFile::serialize`), statement by statement,
on top of the shared bin-archive model (`BinArchive`, `Reader`, `Writer`).

Conventions: a set is the Rust `Vec<Option<String>>` (entry 0 = label, entries 1..=256 = slots);
`u32` flag words are `Nat`s (every value built here is `< 2^32` by construction); loops over a
constant count are structural recursions on the count, the `while reader.tell() < archive.size()`
loop is a well-founded recursion on the bytes that remain (every iteration reads at least one word).
Values pushed into a `Vec` one by one are returned as a list (on `Err` the Rust discards them anyway).
-/
import MilaModel.Model.BinStreams
import MilaModel.Lemmas.Streams

namespace Mila.Aset
open Mila BinArchive

/-- `pub struct ASetFile` (aset.rs:365-369). -/
structure ASetFile where
  metaStr : Option Str
  animClipTable : List (Option Str)
  sets : List (List (Option Str))
  deriving Repr, DecidableEq

/-- The reserved label `"AnimClipNameTable"` (aset.rs:386, 438). -/
def tableLabel : Str :=
  bs ['A', 'n', 'i', 'm', 'C', 'l', 'i', 'p', 'N', 'a', 'm', 'e', 'T', 'a', 'b', 'l', 'e']

/-- `(flags & (1 << bit)) != 0` on `u32` (aset.rs:406, 409). -/
def bitSet (flags bit : Nat) : Bool := flags &&& (1 <<< bit) != 0

/-! ### `from_archive` (aset.rs:380-425) -/

/-- aset.rs:395-397: `for _ in 0..n { table.push(reader.read_string()?) }`. -/
def readTable (a : BinArchive) : Nat → Reader → Res (List (Option Str) × Reader)
  | 0, r => .ok ([], r)
  | n + 1, r =>
    match r.readString a with
    | .ok (s, r1) =>
      match readTable a n r1 with
      | .ok (rest, r2) => .ok (s :: rest, r2)
      | .err e => .err e
      | .panic => .panic
    | .err e => .err e
    | .panic => .panic

/-- aset.rs:408-414: the slots of a present group, bits `bit .. bit+n`. -/
def readSlots (a : BinArchive) (flags : Nat) : Nat → Nat → Reader → Res (List (Option Str) × Reader)
  | 0, _, r => .ok ([], r)
  | n + 1, bit, r =>
    if bitSet flags bit then
      match r.readString a with
      | .ok (s, r1) =>
        match readSlots a flags n (bit + 1) r1 with
        | .ok (rest, r2) => .ok (s :: rest, r2)
        | .err e => .err e
        | .panic => .panic
      | .err e => .err e
      | .panic => .panic
    else
      match readSlots a flags n (bit + 1) r with
      | .ok (rest, r2) => .ok (none :: rest, r2)
      | .err e => .err e
      | .panic => .panic

/-- aset.rs:404-420: groups `i .. i+n` of one set. -/
def readGroups (a : BinArchive) (mainFlags : Nat) : Nat → Nat → Reader → Res (List (Option Str) × Reader)
  | 0, _, r => .ok ([], r)
  | n + 1, i, r =>
    if bitSet mainFlags i then
      match r.readU32 a with
      | .ok (flags, r1) =>
        match readSlots a flags 32 0 r1 with
        | .ok (slots, r2) =>
          match readGroups a mainFlags n (i + 1) r2 with
          | .ok (rest, r3) => .ok (slots ++ rest, r3)
          | .err e => .err e
          | .panic => .panic
        | .err e => .err e
        | .panic => .panic
      | .err e => .err e
      | .panic => .panic
    else
      match readGroups a mainFlags n (i + 1) r with
      | .ok (rest, r3) => .ok (List.replicate 32 none ++ rest, r3)
      | .err e => .err e
      | .panic => .panic

/-- aset.rs:401-421: one set. -/
def readSet (a : BinArchive) (r : Reader) : Res (List (Option Str) × Reader) :=
  match r.readLabel a 0 with
  | .ok label =>
    match r.readU32 a with
    | .ok (mainFlags, r1) =>
      match readGroups a mainFlags 8 0 r1 with
      | .ok (slots, r2) => .ok (label :: slots, r2)
      | .err e => .err e
      | .panic => .panic
    | .err e => .err e
    | .panic => .panic
  | .err e => .err e
  | .panic => .panic

-- In the three lemmas below the error branches return no cursor: `cases h` disposes of them and
-- leaves the successful paths, with the successful reads as hypotheses in program order.
theorem readSlots_pos {a : BinArchive} {flags : Nat} (n bit : Nat) (r : Reader) {l r'}
    (h : readSlots a flags n bit r = .ok (l, r')) : r.pos ≤ r'.pos := by
  fun_induction readSlots a flags n bit r generalizing l <;> cases h
  · exact Nat.le_refl _
  · next h1 _ ih h2 =>
    have := ih h2
    have := Reader.step_pos h1
    omega
  · next ih h2 => exact ih h2

theorem readGroups_pos {a : BinArchive} {mainFlags : Nat} (n i : Nat) (r : Reader) {l r'}
    (h : readGroups a mainFlags n i r = .ok (l, r')) : r.pos ≤ r'.pos := by
  fun_induction readGroups a mainFlags n i r generalizing l <;> cases h
  · exact Nat.le_refl _
  · next h1 _ _ h2 _ ih h3 =>
    have := ih h3
    have := readSlots_pos _ _ _ h2
    have := Reader.step_pos h1
    omega
  · next ih h3 => exact ih h3

/-- Every successfully read set consumes at least its main flag word. -/
theorem readSet_pos {a : BinArchive} {r : Reader} {s r'} (h : readSet a r = .ok (s, r')) :
    r.pos + 4 ≤ r'.pos := by
  revert h
  fun_cases readSet a r <;> intro h <;> cases h
  next h1 _ h2 =>
    have := readGroups_pos _ _ _ h2
    have := Reader.step_pos h1
    omega

set_option linter.unusedVariables false in
/-- aset.rs:400-422: `while reader.tell() < archive.size() { … aset.sets.push(set) }`. -/
def readSets (a : BinArchive) (r : Reader) (acc : List (List (Option Str))) :
    Res (List (List (Option Str))) :=
  if r.pos < a.size then
    match h : readSet a r with
    | .ok (set, r') => readSets a r' (acc ++ [set])
    | .err e => .err e
    | .panic => .panic
  else .ok acc
termination_by a.size - r.pos
decreasing_by
  have := readSet_pos h
  omega

/-- `ASetFile::from_archive` (aset.rs:380-425). -/
def fromArchive (a : BinArchive) : Res ASetFile :=
  let r : Reader := ⟨0⟩                                         -- :381
  let r := r.skip 4                                             -- :382
  match a.findLabelAddress tableLabel with                      -- :384-389
  | none => .err .Other
  | some tableAddress =>
    match r.readString a with                                   -- :391
    | .ok (metaStr, r) =>
      let r := r.seek tableAddress                              -- :394
      match readTable a 257 r with                              -- :395-397
      | .ok (table, r) =>
        match readSets a r [] with                              -- :400-422
        | .ok sets => .ok ⟨metaStr, table, sets⟩
        | .err e => .err e
        | .panic => .panic
      | .err e => .err e
      | .panic => .panic
    | .err e => .err e
    | .panic => .panic

/-! ### `serialize` (aset.rs:427-489)

The flag-compilation loop nest (aset.rs:446-468) updates four accumulators while it walks
`flag_set ∈ 0..8`, `bit ∈ 0..32`; each accumulator is written here as its own fold over the same
index ranges. -/

/-- `set.get(index).map(|entry| entry.is_some()).unwrap_or_default()` (aset.rs:454-457). -/
def present (set : List (Option Str)) (index : Nat) : Bool :=
  match set[index]? with
  | some (some _) => true
  | _ => false

/-- `set_flags` of group `flagSet` (aset.rs:451-462). -/
def setFlags (set : List (Option Str)) (flagSet : Nat) : Nat :=
  (List.range 32).foldl
    (fun f bit => if present set (flagSet * 32 + bit + 1) then f ||| (1 <<< bit) else f) 0

/-- Contribution of group `flagSet` to `strings_to_write` (aset.rs:460). -/
def stringsIn (set : List (Option Str)) (flagSet : Nat) : Nat :=
  (List.range 32).countP (fun bit => present set (flagSet * 32 + bit + 1))

/-- `compiled_flags` (aset.rs:449, 463). -/
def compiledFlags (set : List (Option Str)) : List Nat := (List.range 8).map (setFlags set)

/-- `main_flags` (aset.rs:446, 464-465). -/
def mainFlags (set : List (Option Str)) : Nat :=
  (List.range 8).foldl (fun m g => if setFlags set g ≠ 0 then m ||| (1 <<< g) else m) 0

/-- `flags_to_write` (aset.rs:447, 466). -/
def flagsToWrite (set : List (Option Str)) : Nat :=
  (List.range 8).countP (fun g => setFlags set g ≠ 0)

/-- `strings_to_write` (aset.rs:448, 460). -/
def stringsToWrite (set : List (Option Str)) : Nat := ((List.range 8).map (stringsIn set)).sum

/-- aset.rs:479-484: slots `j .. j+n` of group `i`. -/
def writeSlots (set : List (Option Str)) (i : Nat) : Nat → Nat → Writer → Res Writer
  | 0, _, w => .ok w
  | n + 1, j, w =>
    match (set[i * 32 + j + 1]?).join with     -- `set.get(index).and_then(|entry| entry.as_deref())`
    | some v =>
      match w.writeString (some v) with
      | .ok w1 => writeSlots set i n (j + 1) w1
      | .err e => .err e
      | .panic => .panic
    | none => writeSlots set i n (j + 1) w

/-- aset.rs:476-486: `for (i, flag) in compiled_flags.iter().enumerate().take(8)`. -/
def writeGroups (set : List (Option Str)) : List Nat → Nat → Writer → Res Writer
  | [], _, w => .ok w
  | flag :: rest, i, w =>
    if flag ≠ 0 then
      match w.writeU32 flag with
      | .ok w1 =>
        match writeSlots set i 32 0 w1 with
        | .ok w2 => writeGroups set rest (i + 1) w2
        | .err e => .err e
        | .panic => .panic
      | .err e => .err e
      | .panic => .panic
    else writeGroups set rest (i + 1) w

/-- aset.rs:475-486: main flag word, then the groups. -/
def writeSetBody (set : List (Option Str)) (w : Writer) : Res Writer :=
  match w.writeU32 (mainFlags set) with                                            -- :475
  | .ok w2 => writeGroups set ((compiledFlags set).take 8) 0 w2                    -- :476-486
  | .err e => .err e
  | .panic => .panic

/-- aset.rs:444-487: one iteration of `for set in &self.sets`. -/
def writeSet (w : Writer) (set : List (Option Str)) : Res Writer :=
  let w := w.allocateAtEnd ((flagsToWrite set + stringsToWrite set + 1) * 4)      -- :471
  match set[0]? with                                  -- :472 `&set[0]` panics on an empty set
  | none => .panic
  | some none => writeSetBody set w
  | some (some label) =>
    match w.writeLabel label with                                                  -- :473
    | .ok w1 => writeSetBody set w1
    | .err e => .err e
    | .panic => .panic

def writeSets : List (List (Option Str)) → Writer → Res Writer
  | [], w => .ok w
  | set :: rest, w =>
    match writeSet w set with
    | .ok w1 => writeSets rest w1
    | .err e => .err e
    | .panic => .panic

/-- aset.rs:439-441. -/
def writeTable : List (Option Str) → Writer → Res Writer
  | [], w => .ok w
  | name :: rest, w =>
    match w.writeString name with
    | .ok w1 => writeTable rest w1
    | .err e => .err e
    | .panic => .panic

/-- The archive `ASetFile::serialize` builds before it calls `archive.serialize()` (aset.rs:428-487). -/
def build (f : ASetFile) : Res BinArchive :=
  let a := (BinArchive.new .little).allocateAtEnd 12              -- :429-430
  match a.writeUInt 0 4 4 with                                    -- :431
  | .ok a =>
    match a.writeString 4 f.metaStr with                             -- :432
    | .ok a =>
      match a.writeUInt 8 4 0x100 with                            -- :433
      | .ok a =>
        let a := a.allocateAtEnd (f.animClipTable.length * 4)     -- :436
        let w : Writer := ⟨a, 12⟩                                 -- :437
        match w.writeLabel tableLabel with                        -- :438
        | .ok w =>
          match writeTable f.animClipTable w with                 -- :439-441
          | .ok w =>
            match writeSets f.sets w with                         -- :444-487
            | .ok w => .ok w.archive
            | .err e => .err e
            | .panic => .panic
          | .err e => .err e
          | .panic => .panic
        | .err e => .err e
        | .panic => .panic
      | .err e => .err e
      | .panic => .panic
    | .err e => .err e
    | .panic => .panic
  | .err e => .err e
  | .panic => .panic

/-- `ASetFile::serialize` (aset.rs:427-489). -/
def serialize (c : Codec) (f : ASetFile) : Res Bytes :=
  match build f with
  | .ok a => a.serialize c                                        -- :488
  | .err e => .err e
  | .panic => .panic

end Mila.Aset
