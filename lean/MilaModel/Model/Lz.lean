/-
Model of `src/lz13.rs`, `src/lz10.rs`, `src/compression_format.rs` (C08–C11), transcribed
statement by statement.  Conventions (DESIGN §3):

* byte buffers are `Array UInt8` (`Vec<u8>` / `&[u8]` with O(1) indexing); the decoder's input
  cursor (`position` into `bytes`) is the list of bytes not yet consumed;
* an index out of bounds, a `usize` subtraction that would underflow, and a shift amount that
  would be negative are `Res.panic` (over-approximation valid for both cargo profiles: the
  theorems show these branches are never taken);
* `i32` values are `Int`; `>> k` is floor division by `2^k`, `<< k` multiplication, `& 0x0F` is
  `% 16`, `& 0xFF` is `% 256`, `& 0xF0` is `% 256 / 16 * 16`, `as u8` is `% 256` (two's complement
  meaning of the operators; the magnitudes involved never leave the `i32` range);
* `for` loops are structural recursion on the number of iterations left, `while` loops are
  well-founded recursion on the measure the Rust relies on.
-/
import MilaModel.Basic

namespace Mila.Lz

abbrev BA := Array UInt8

/-! ### `get_occurrence_length` (lz13.rs:7-38) -/

/-- lz13.rs:23-28 `for j in 0..new_length`: `k` iterations left, `j` = `current_length`.
`none` = index out of bounds. -/
def matchLen (x : BA) (a b : Nat) : Nat → Nat → Option Nat
  | 0, j => some j
  | k + 1, j =>
    if h1 : a + j < x.size then
      if h2 : b + j < x.size then
        if x[a + j] != x[b + j] then some j          -- :24-26 break
        else matchLen x a b k (j + 1)                 -- :27
      else none
    else none

/-- lz13.rs:20-36 `for i in 0..(old_length - 1)`: `k` iterations left. -/
def occLoop (x : BA) (newPtr newLen oldPtr oldLen : Nat) : Nat → Nat → Nat → Nat → Res (Nat × Nat)
  | 0, _, disp, maxLen => .ok (maxLen, disp)
  | k + 1, i, disp, maxLen =>
    match matchLen x (oldPtr + i) newPtr newLen 0 with   -- :21-28
    | none => .panic
    | some cur =>
      if cur > maxLen then                              -- :29
        if cur = newLen then .ok (cur, oldLen - i)      -- :30-34 (break)
        else occLoop x newPtr newLen oldPtr oldLen k (i + 1) (oldLen - i) cur
      else occLoop x newPtr newLen oldPtr oldLen k (i + 1) disp maxLen

/-- lz13.rs:7-38; returns `(max_length, disp)`. -/
def occurrence (x : BA) (newPtr newLen oldPtr oldLen : Nat) : Res (Nat × Nat) :=
  if newLen = 0 ∨ oldLen = 0 then .ok (0, 0)            -- :14-16
  else occLoop x newPtr newLen oldPtr oldLen (oldLen - 1) 0 0 0

/-! ### u8 helpers for the token bytes -/

/-- `(v & 0x0F) as u8` -/
def and0F (v : Int) : UInt8 := UInt8.ofNat (v % 16).toNat
/-- `(v & 0xFF) as u8` -/
def andFF (v : Int) : UInt8 := UInt8.ofNat (v % 256).toNat
/-- `(v & 0xF0) as u8` -/
def andF0 (v : Int) : UInt8 := UInt8.ofNat (v % 256 / 16 * 16).toNat

/-- `(1 << (7 - buffered_blocks)) as u8` -/
def flagBit (blocks : Nat) : UInt8 := UInt8.ofNat (2 ^ (7 - blocks))

/-! ### `LZ10CompressionFormat::compress` (lz10.rs:16-63) -/

/-- lz10.rs:27-58 `while read_bytes < bytes.len()`; `outBuf` = `out_buffer[0..buffer_length]`. -/
def compress10Loop (x : BA) (buf outBuf : BA) (blocks read : Nat) : Res BA :=
  if h : read < x.size then
    -- :28-33
    let buf := if blocks = 8 then buf ++ outBuf else buf
    let outBuf := if blocks = 8 then #[0] else outBuf
    let blocks := if blocks = 8 then 0 else blocks
    let oldLen := min read 0x1000                                                    -- :35
    match occurrence x read (min (x.size - read) 0x12) (read - oldLen) oldLen with  -- :36-42
    | .panic => .panic
    | .err e => .err e
    | .ok (len, disp) =>
      if len < 3 then                                                                -- :44
        if outBuf.size + 1 > 17 then .panic                                          -- out_buffer is [u8; 17]
        else compress10Loop x buf (outBuf.push x[read]) (blocks + 1) (read + 1)      -- :45-47, :57
      else
        if blocks > 7 ∨ disp < 1 ∨ outBuf.size = 0 ∨ outBuf.size + 2 > 17 then .panic
        else
          let length : Int := len
          let outBuf := outBuf.modify 0 (· ||| flagBit blocks)                       -- :50
          let b0 := andF0 ((length - 3) * 16)                                        -- :51
          let b0 := b0 ||| and0F (((disp - 1 : Nat) : Int) / 256)                    -- :52
          let outBuf := outBuf.push b0                                               -- :53
          let outBuf := outBuf.push (andFF ((disp - 1 : Nat) : Int))                 -- :54-55
          compress10Loop x buf outBuf (blocks + 1) (read + len)                      -- :49, :57
  else
    .ok (if blocks > 0 then buf ++ outBuf else buf)                                  -- :59-62
termination_by x.size - read
decreasing_by all_goals omega

/-- lz10.rs:16-63 -/
def compress10 (x : BA) : Res BA :=
  let n := x.size
  let buf : BA := #[0x10, UInt8.ofNat (n % 256), UInt8.ofNat (n / 256 % 256), UInt8.ofNat (n / 65536 % 256)]
  compress10Loop x buf #[0] 0 0

/-! ### `calculate_lz13_header` (lz13.rs:111-163)

`Wrapping<i32>` counters: `sp`, `y`, `x`, `length`, `fc` never leave `[0, bytes.len()]` and are
naturals here (inputs below 2^31 bytes, hypothesis of the theorems); `buffer_length` and
`max_lead` are `Int` because `sp - buffer_length` is negative for short inputs. -/

/-- lz13.rs:123-125 inner `while`; returns the final `y`. `none` = `bytes[(y - x) as usize]` out
of bounds (`y < x` makes the index negative, i.e. huge). -/
def hdrRun (b : BA) (x y : Nat) : Option Nat :=
  if h : y < b.size then
    if hx : y < x then none
    else if b[y] == b[y - x] then hdrRun b x (y + 1) else some y
  else some y
termination_by b.size - y

/-- lz13.rs:121-131 `while x.0 >= 2`. -/
def hdrCand (b : BA) (sp : Nat) : Nat → Nat → Option Nat
  | x, length =>
    if x ≥ 2 then
      match hdrRun b x sp with                                    -- :122-125
      | none => none
      | some y =>
        let y := y - sp                                           -- :126
        let length := if y ≥ 3 ∧ y > length then y else length   -- :127-129
        hdrCand b sp (x - 1) length                               -- :130
    else some length
termination_by x => x

/-- lz13.rs:117-160 outer `while`. -/
def hdrLoop (b : BA) (sp : Nat) (maxLead bufLen : Int) (fc : Nat) : Res Nat :=
  if _h : sp < b.size then
    match hdrCand b sp (min sp 4096) 1 with                       -- :118-131
    | none => .panic
    | some length =>
      if length = 1 then                                          -- :133-135
        let bufLen := bufLen + 1
        let sp := sp + 1
        let maxLead := max maxLead ((sp : Int) - bufLen)          -- :153
        let fc := fc + 1                                          -- :155
        if fc = 8 then hdrLoop b sp maxLead (bufLen + 1) 0        -- :156-159
        else hdrLoop b sp maxLead bufLen fc
      else if length ≤ 2 then .err .Invalid                       -- :139-142
      else
        let sp := sp + length                                     -- :137
        let bufLen := bufLen + (if length ≤ 0x10 then 1 else if length ≤ 0x110 then 2 else 3)  -- :143-149
        let bufLen := bufLen + 1                                  -- :150
        let maxLead := max maxLead ((sp : Int) - bufLen)
        let fc := fc + 1
        if fc = 8 then hdrLoop b sp maxLead (bufLen + 1) 0
        else hdrLoop b sp maxLead bufLen fc
  else .ok ((maxLead + bufLen) % 2 ^ 64).toNat                     -- :162
termination_by b.size - sp
decreasing_by all_goals omega

def lz13Header (b : BA) : Res Nat := hdrLoop b 0 0 9 0

/-! ### `LZ13CompressionFormat::compress` (lz13.rs:173-241) -/

/-- The size passed to `result.reserve` (lz13.rs:178); `n - 1` is `saturating_sub`. -/
def reserve13 (n : Nat) : Nat := 13 + n + (n - 1) / 8

/-- lz13.rs:198-236 -/
def compress13Loop (x : BA) (result outBuf : BA) (blocks read : Nat) : Res BA :=
  if h : read < x.size then
    -- :200-204
    let result := if blocks = 8 then result ++ outBuf else result
    let outBuf := if blocks = 8 then #[0] else outBuf
    let blocks := if blocks = 8 then 0 else blocks
    let oldLen := min read 0x1000                                                      -- :206
    match occurrence x read (min (x.size - read) 0x1000) (read - oldLen) oldLen with  -- :207-213
    | .panic => .panic
    | .err e => .err e
    | .ok (len, disp) =>
      if len < 3 then                                                                  -- :215
        compress13Loop x result (outBuf.push x[read]) (blocks + 1) (read + 1)          -- :216-217
      else
        if blocks > 7 ∨ disp < 1 ∨ outBuf.size = 0 then .panic
        else
          let length : Int := len
          let outBuf := outBuf.modify 0 (· ||| flagBit blocks)                         -- :220
          let outBuf :=
            if length > 0x110 then                                                     -- :221-224
              ((outBuf.push (0x10 ||| and0F ((length - 0x111) / 4096))).push
                (andFF ((length - 0x111) / 16))).push (andF0 ((length - 0x111) * 16))
            else if length > 0x10 then                                                 -- :225-227
              (outBuf.push (and0F ((length - 0x111) / 16))).push (andF0 ((length - 0x111) * 16))
            else outBuf.push (andF0 ((length - 1) * 16))                               -- :229
          let lastIndex := outBuf.size - 1                                             -- :231
          let outBuf := outBuf.modify lastIndex (· ||| and0F (((disp - 1 : Nat) : Int) / 256))  -- :232
          let outBuf := outBuf.push (andFF ((disp - 1 : Nat) : Int))                   -- :233
          compress13Loop x result outBuf (blocks + 1) (read + len)                     -- :219, :235
  else
    .ok (if blocks > 0 then result ++ outBuf else result)                              -- :237-240
termination_by x.size - read
decreasing_by all_goals omega

/-- lz13.rs:173-241; also returns the `reserve` request. -/
def compress13 (x : BA) : Res BA × Nat :=
  let length := x.size
  match lz13Header x with                                                              -- :177
  | .panic => (.panic, 0)
  | .err e => (.err e, 0)
  | .ok l =>
    let result : BA := #[0x13, UInt8.ofNat (l % 256), UInt8.ofNat (l / 256 % 256), UInt8.ofNat (l / 65536 % 256),
      0x11, UInt8.ofNat (length % 256), UInt8.ofNat (length / 256 % 256), UInt8.ofNat (length / 65536 % 256)]
    let result := if length = 0 then result ++ #[0, 0, 0, 0] else result              -- :187-190
    (compress13Loop x result #[0] 0 0, reserve13 length)

/-! ### `decompress_lz` (lz13.rs:44-108) -/

/-- The `next` closure (lz13.rs:46-50). -/
def next : Bytes → Option (Nat × Bytes)
  | [] => none
  | b :: s => some (b.toNat, s)

/-- The `read_u32` closure (lz13.rs:51-53); the `|` of the shifted bytes is their sum. -/
def readU32 (s : Bytes) : Option (Nat × Bytes) :=
  match next s with
  | none => none
  | some (a, s) =>
    match next s with
    | none => none
    | some (b, s) =>
      match next s with
      | none => none
      | some (c, s) =>
        match next s with
        | none => none
        | some (d, s) => some (a + b * 2 ^ 8 + c * 2 ^ 16 + d * 2 ^ 24, s)

/-- lz13.rs:101-104 `for i in 0..count`: `k` iterations left. -/
def copyLoop (start : Nat) : Nat → Nat → BA → Res BA
  | 0, _, out => .ok out
  | k + 1, i, out =>
    if h : start + i < out.size then copyLoop start k (i + 1) (out.push out[start + i])
    else .panic

/-- Reference decoding (lz13.rs:77-96): `(count, disp, rest)`. -/
def decodeRef (ext : Bool) (s : Bytes) : Option (Nat × Nat × Bytes) :=
  match next s with
  | none => none
  | some (byte0, s) =>
    match next s with
    | none => none
    | some (byte1, s) =>
      if !ext then some (byte0 / 16 + 3, byte0 % 16 * 256 + byte1, s)              -- :79-80
      else if byte0 / 16 > 1 then some (byte0 / 16 + 1, byte0 % 16 * 256 + byte1, s)  -- :81-82
      else if byte0 / 16 = 0 then                                                  -- :83-88
        match next s with
        | none => none
        | some (byte2, s) => some (byte0 % 16 * 16 + byte1 / 16 + 0x11, byte1 % 16 * 256 + byte2, s)
      else                                                                         -- :89-95
        match next s with
        | none => none
        | some (byte2, s) =>
          match next s with
          | none => none
          | some (byte3, s) =>
            some (byte0 % 16 * 4096 + byte1 * 16 + byte2 / 16 + 0x111, byte2 % 16 * 256 + byte3, s)

/-- lz13.rs:69-105 `for bit_no in (0..8).rev()`: argument `k = bit_no + 1`. -/
def bitLoop (ext : Bool) (length flags : Nat) : Nat → Bytes → BA → Res (Bytes × BA)
  | 0, s, out => .ok (s, out)
  | k + 1, s, out =>
    if out.size ≥ length then .ok (s, out)                         -- :70-72
    else if (flags >>> k) &&& 1 = 0 then                           -- :73-76
      match next s with
      | none => .err .Invalid
      | some (b, s) => bitLoop ext length flags k s (out.push (UInt8.ofNat b))
    else
      match decodeRef ext s with                                   -- :77-96
      | none => .err .Invalid
      | some (count, disp, s) =>
        if disp ≥ out.size then .err .Invalid                      -- :97-99
        else
          match copyLoop (out.size - disp - 1) count 0 out with    -- :100-104
          | .ok out => bitLoop ext length flags k s out
          | .err e => .err e
          | .panic => .panic

theorem next_length {s : Bytes} {b : Nat} {s' : Bytes} (h : next s = some (b, s')) :
    s'.length + 1 = s.length := by
  cases s with
  | nil => simp [next] at h
  | cons x xs => simp [next] at h; simp [h.2]

theorem decodeRef_length {ext : Bool} {s : Bytes} {c d : Nat} {r : Bytes}
    (h : decodeRef ext s = some (c, d, r)) : r.length ≤ s.length := by
  revert h
  fun_cases decodeRef ext s with
  | case3 _ _ h0 _ _ h1 | case4 _ _ h0 _ _ h1 =>
    rintro ⟨⟩
    have := next_length h0
    have := next_length h1
    omega
  | case6 _ _ h0 _ _ h1 _ _ _ _ _ h2 =>
    rintro ⟨⟩
    have := next_length h0
    have := next_length h1
    have := next_length h2
    omega
  | case9 _ _ h0 _ _ h1 _ _ _ _ _ h2 _ _ h3 =>
    rintro ⟨⟩
    have := next_length h0
    have := next_length h1
    have := next_length h2
    have := next_length h3
    omega
  | _ => rintro ⟨⟩

theorem bitLoop_length (ext : Bool) (length flags k : Nat) (s : Bytes) (out : BA) (s' : Bytes) (out' : BA)
    (h : bitLoop ext length flags k s out = .ok (s', out')) : s'.length ≤ s.length := by
  fun_induction bitLoop ext length flags k s out with
  | case1 | case2 =>
    cases h
    exact Nat.le_refl _
  | case4 _ _ _ _ _ _ _ h0 ih =>
    have := ih h
    have := next_length h0
    omega
  | case7 _ _ _ _ _ _ _ _ h0 _ _ _ ih =>
    have := ih h
    have := decodeRef_length h0
    omega
  | _ => cases h

/-- lz13.rs:67-106 outer `while out.len() < length`. -/
def outerLoop (ext : Bool) (length : Nat) (s : Bytes) (out : BA) : Res BA :=
  if out.size < length then
    match s with
    | [] => .err .Invalid                                          -- :68
    | f :: s' =>
      match h : bitLoop ext length f.toNat 8 s' out with
      | .ok (s'', out') => outerLoop ext length s'' out'
      | .err e => .err e
      | .panic => .panic
  else .ok out
termination_by s.length
decreasing_by
  have := bitLoop_length _ _ _ _ _ _ _ _ h
  simp; omega

/-- lz13.rs:44-108; `None` is `err Invalid`. -/
def decompressLz (bytes : Bytes) : Res BA :=
  match readU32 bytes with                                         -- :55
  | none => .err .Invalid
  | some (header, s) =>
    if header % 256 ≠ 0x10 ∧ header % 256 ≠ 0x11 then .err .Invalid  -- :56-60
    else
      let extended := header % 256 = 0x11
      let length := header / 256                                   -- :61
      if length = 0 ∧ extended then                                -- :62-64
        match readU32 s with
        | none => .err .Invalid
        | some (length, s) => outerLoop extended length s (Array.emptyWithCapacity (min length 0x1000000))  -- :66
      else outerLoop extended length s (Array.emptyWithCapacity (min length 0x1000000))                    -- :66

/-! ### The `decompress` wrappers -/

/-- lz10.rs:65-70 -/
def decompress10 (bytes : Bytes) : Res BA :=
  match decompressLz bytes with
  | .ok d => .ok d
  | .err _ => .err .Invalid
  | .panic => .panic

/-- lz13.rs:243-259 -/
def decompress13 (bytes : Bytes) : Res BA :=
  if bytes.length < 4 then .err .Invalid                           -- :244-246
  else
    match bytes with
    | [] => .panic                                                 -- bytes[0]
    | b0 :: _ =>
      if b0 = 0 then .ok (bytes.drop 4).toArray                    -- :247-250
      else
        let truncated := if b0 = 0x13 then bytes.drop 4 else bytes -- :252
        match decompressLz truncated with                          -- :254-257
        | .ok d => .ok d
        | .err _ => .err .Invalid
        | .panic => .panic

/-- compression_format.rs:6-32 -/
inductive Format | lz10 | lz13
  deriving DecidableEq, Repr

def Format.compress : Format → BA → Res BA
  | .lz10, x => compress10 x
  | .lz13, x => (compress13 x).1

/-- `str::ends_with` on UTF-8 bytes. -/
def endsWith (name suffix : Bytes) : Bool :=
  suffix.length ≤ name.length && name.drop (name.length - suffix.length) == suffix

/-- lz10.rs:12-14, lz13.rs:169-171, compression_format.rs:13-18 -/
def Format.isCompressedFilename : Format → Bytes → Bool
  | .lz10, n => endsWith n (bs ['.', 'c', 'm', 's']) || endsWith n (bs ['.', 'c', 'm', 'p'])
  | .lz13, n => endsWith n (bs ['.', 'l', 'z'])

def Format.decompress : Format → Bytes → Res BA
  | .lz10, s => decompress10 s
  | .lz13, s => decompress13 s

end Mila.Lz
