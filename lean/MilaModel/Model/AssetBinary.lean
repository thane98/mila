/-
Model of `src/asset_binary.rs` (`AssetSpec::from_stream`, `compute_flags`, `append`,
`AssetBinary::from_archive`, `serialize`) on top of the shared bin-archive model.

The 51 optional fields of `AssetSpec` are handled through one table: field index `i ∈ 1..=51` is
flag bit `i` (byte `i / 8`, bit `i % 8`; bit 0 of byte 0 is the "extended record" marker).
  1..=33   `Option<String>`                       (`read_flag_str` / `write_flag_str`)
  34,35,36 `[u8; 4]` colour + `use_*`             (`read_color` / `write_color`: `swap(0, 2)`)
  37,38,39 `f32` + `use_*`                        (`read_f32` / `write_f32`)
  40..=43  `u32` + `use_*`   (unk3..unk6)
  44       `[u8; 4]` `bitflags` + `use_bitflags`  (colour routines)
  45..=51  `u32` + `use_*`   (unk7..unk13)
A typed value is kept as the four bytes of its little-endian in-memory form (`u32::to_le_bytes`,
`f32::to_bits().to_le_bytes()` — M5 — or the colour array itself); flag bytes are `Nat`s `< 256`.
The harness maps the 51 named struct fields to these indices with its own table.
-/
import MilaModel.Model.BinStreams
import MilaModel.Lemmas.Streams

namespace Mila.Asset
open Mila BinArchive

inductive Kind
  | str | color | f32 | u32
  deriving DecidableEq, Repr

/-- The field table (asset_binary.rs:152-261 / 269-437 / 460-551). -/
def kindOf (i : Nat) : Kind :=
  if i ≤ 33 then .str
  else if i = 34 ∨ i = 35 ∨ i = 36 ∨ i = 44 then .color
  else if i = 37 ∨ i = 38 ∨ i = 39 then .f32
  else .u32

/-- `pub struct AssetSpec` (asset_binary.rs:7-84): `strs[i-1]` is string field `i` (1..=33),
`vals[i-34]` is the pair `(use_x, x)` of typed field `i` (34..=51). -/
structure AssetSpec where
  name : Option Str
  strs : List (Option Str)
  vals : List (Bool × Bytes)
  deriving Repr, DecidableEq

/-- `pub struct AssetBinary` (asset_binary.rs:557-560). -/
structure AssetBinary where
  flags : Nat
  specs : List AssetSpec
  deriving Repr, DecidableEq

def zero4 : Bytes := [0, 0, 0, 0]

def strField (s : AssetSpec) (i : Nat) : Option Str := (s.strs[i - 1]?).join
def valField (s : AssetSpec) (i : Nat) : Bool × Bytes := s.vals.getD (i - 34) (false, zero4)

/-- Is field `i` to be written (`!x.is_none()` / `use_x`)? -/
def present (s : AssetSpec) (i : Nat) : Bool :=
  if i = 0 then false
  else if i ≤ 33 then (strField s i).isSome
  else if i ≤ 51 then (valField s i).1
  else false

/-- `arr.swap(2, 0)` (asset_binary.rs:114, 120). -/
def swap02 : Bytes → Bytes
  | [a, b, c, d] => [c, b, a, d]
  | x => x

/-- `(flags[byte] & (1 << bit_index)) != 0` with `byte = index / 8`, `bit_index = index % 8`. -/
def flagBit (flags : List Nat) (index : Nat) : Bool :=
  (flags.getD (index / 8) 0) &&& (1 <<< (index % 8)) != 0

/-! ### `from_stream` (asset_binary.rs:141-265) -/

/-- `read_flag_str` (asset_binary.rs:86-98). -/
def readFlagStr (a : BinArchive) (r : Reader) (flags : List Nat) (index : Nat) :
    Res (Option Str × Reader) :=
  if index / 8 ≥ flags.length || !flagBit flags index then .ok (none, r)
  else r.readString a

/-- `read_color` (asset_binary.rs:110-116). -/
def readColor (a : BinArchive) (r : Reader) : Res (Bytes × Reader) :=
  match r.readBytes a 4 with
  | .ok (b, r1) => .ok (swap02 b, r1)
  | .err e => .err e
  | .panic => .panic

/-- asset_binary.rs:152-185, 188-189: the string fields listed in `is`, in order. -/
def readStrs (a : BinArchive) (flags : List Nat) : List Nat → Reader → Res (List (Option Str) × Reader)
  | [], r => .ok ([], r)
  | i :: is, r =>
    match readFlagStr a r flags i with
    | .ok (s, r1) =>
      match readStrs a flags is r1 with
      | .ok (rest, r2) => .ok (s :: rest, r2)
      | .err e => .err e
      | .panic => .panic
    | .err e => .err e
    | .panic => .panic

/-- One `if (flags[b] & mask) != 0 { spec.use_x = true; spec.x = read…(reader)?; }` block
(asset_binary.rs:190-261); an untouched field keeps its `Default` (`false`, zero). -/
def readVal (a : BinArchive) (flags : List Nat) (i : Nat) (r : Reader) : Res ((Bool × Bytes) × Reader) :=
  if flagBit flags i then
    match kindOf i with
    | .color =>
      match readColor a r with
      | .ok (c, r1) => .ok ((true, c), r1)
      | .err e => .err e
      | .panic => .panic
    | _ =>
      match r.readU32 a with               -- `read_u32` / the bit pattern of `read_f32`
      | .ok (n, r1) => .ok ((true, leBytes 4 n), r1)
      | .err e => .err e
      | .panic => .panic
  else .ok ((false, zero4), r)

def readVals (a : BinArchive) (flags : List Nat) : List Nat → Reader → Res (List (Bool × Bytes) × Reader)
  | [], r => .ok ([], r)
  | i :: is, r =>
    match readVal a flags i r with
    | .ok (v, r1) =>
      match readVals a flags is r1 with
      | .ok (rest, r2) => .ok (v :: rest, r2)
      | .err e => .err e
      | .panic => .panic
    | .err e => .err e
    | .panic => .panic

/-- `AssetSpec::from_stream` (asset_binary.rs:141-265). -/
def fromStream (a : BinArchive) (r : Reader) : Res (AssetSpec × Reader) :=
  match r.readU8 a with                                                   -- :143
  | .ok (raw, r) =>
    let flagCount := if raw &&& 1 = 1 then 7 else 3                       -- :142, 144-146
    match r.readBytes a flagCount with                                    -- :148
    | .ok (more, r) =>
      let flags := raw :: more.map (·.toNat)                              -- :147-148
      match r.readString a with                                           -- :151
      | .ok (name, r) =>
        match readStrs a flags (List.range' 1 31) r with                  -- :152-185
        | .ok (s1, r) =>
          if flagCount > 3 then                                           -- :187
            match readStrs a flags [32, 33] r with                        -- :188-189
            | .ok (s2, r) =>
              match readVals a flags (List.range' 34 18) r with           -- :190-261
              | .ok (vals, r) => .ok (⟨name, s1 ++ s2, vals⟩, r)
              | .err e => .err e
              | .panic => .panic
            | .err e => .err e
            | .panic => .panic
          else .ok (⟨name, s1 ++ [none, none], List.replicate 18 (false, zero4)⟩, r)
        | .err e => .err e
        | .panic => .panic
      | .err e => .err e
      | .panic => .panic
    | .err e => .err e
    | .panic => .panic
  | .err e => .err e
  | .panic => .panic

/-! ### `compute_flags` (asset_binary.rs:267-450) -/

/-- `count_bits` (asset_binary.rs:124-132). -/
def countBits (byte : Nat) : Nat := (List.range 8).countP (fun i => byte &&& (1 <<< i) != 0)

/-- Byte `b` of the flag vector after the `flags[b] |= if … { 0 } else { 1 << k }` statements
(asset_binary.rs:269-437): bit `k` is set iff field `8 b + k` is present. -/
def flagByte (s : AssetSpec) (b : Nat) : Nat :=
  (List.range 8).foldl (fun f k => if present s (8 * b + k) then f ||| (1 <<< k) else f) 0

def computeFlags (s : AssetSpec) : List Nat × Nat :=
  let flags := (List.range 8).map (flagByte s)                            -- :268-437
  let flags :=
    if flags.getD 4 0 = 0 ∧ flags.getD 5 0 = 0 ∧ flags.getD 6 0 = 0 then flags.take 4   -- :439-441
    else flags
  let size := flags.length + 4 + (flags.map (fun f => countBits f * 4)).sum             -- :442-445
  let flags := if flags.length > 4 then flags.set 0 (flags.getD 0 0 ||| 1) else flags   -- :446-448
  (flags, size)

/-! ### `append` (asset_binary.rs:452-555) -/

/-- `write_flag_str` (asset_binary.rs:100-108). -/
def writeFlagStr (w : Writer) (v : Option Str) : Res Writer :=
  match v with
  | some s => w.writeString (some s)
  | none => .ok w

/-- `writer.write_bytes(..)?`. -/
def writeBytesR (w : Writer) (v : Bytes) : Res Writer :=
  match w.writeBytes v with
  | (w1, .ok ()) => .ok w1
  | (_, .err e) => .err e
  | (_, .panic) => .panic

/-- `write_color` (asset_binary.rs:118-122). -/
def writeColor (c : Bytes) (w : Writer) : Res Writer := writeBytesR w (swap02 c)

/-- The statement that writes field `i` (asset_binary.rs:460-551). -/
def writeField (s : AssetSpec) (w : Writer) (i : Nat) : Res Writer :=
  match kindOf i with
  | .str => writeFlagStr w (strField s i)
  | .color => if (valField s i).1 then writeColor (valField s i).2 w else .ok w
  | _ => if (valField s i).1 then w.writeU32 (ofLe (valField s i).2) else .ok w

def writeFields (s : AssetSpec) : List Nat → Writer → Res Writer
  | [], w => .ok w
  | i :: is, w =>
    match writeField s w i with
    | .ok w1 => writeFields s is w1
    | .err e => .err e
    | .panic => .panic

/-- `AssetSpec::append` (asset_binary.rs:452-555). -/
def append (s : AssetSpec) (a : BinArchive) : Res BinArchive :=
  let fs := computeFlags s                                                -- :453
  let address := a.size                                                   -- :454
  let a := a.allocateAtEnd fs.2                                           -- :455
  let w : Writer := ⟨a, address⟩                                          -- :456
  match writeBytesR w (fs.1.map UInt8.ofNat) with                         -- :457
  | .ok w =>
    match w.writeString s.name with                                       -- :458
    | .ok w =>
      match writeFields s (List.range' 1 31) w with                       -- :460-493
      | .ok w =>
        if fs.1.length > 4 then                                           -- :495
          match writeFields s (List.range' 32 20) w with                  -- :496-551
          | .ok w => .ok w.archive
          | .err e => .err e
          | .panic => .panic
        else .ok w.archive
      | .err e => .err e
      | .panic => .panic
    | .err e => .err e
    | .panic => .panic
  | .err e => .err e
  | .panic => .panic

/-! ### `AssetBinary` (asset_binary.rs:576-605) -/

theorem readBytes_pos {a : BinArchive} (n : Nat) (r : Reader) {v r'}
    (h : r.readBytes a n = .ok (v, r')) : r'.pos = r.pos + n := by
  unfold Reader.readBytes at h
  split at h
  · rename_i h0
    simp only [Res.ok.injEq, Prod.mk.injEq] at h
    rw [← h.2, h0]; rfl
  · split at h <;> simp at h
    rw [← h.2]

theorem readU8_lt {a : BinArchive} {r : Reader} {v r'} (h : r.readU8 a = .ok (v, r')) :
    r.pos < a.size := by
  unfold Reader.readU8 Reader.step at h
  split at h
  · rename_i v' hv
    unfold BinArchive.readU8 validateAddress at hv
    by_cases h1 : r.pos ≥ a.size
    · simp [h1] at hv
    · omega
  · simp at h
  · simp at h

theorem readFlagStr_pos {a : BinArchive} {flags : List Nat} {i : Nat} {r : Reader} {v r'}
    (h : readFlagStr a r flags i = .ok (v, r')) : r.pos ≤ r'.pos := by
  unfold readFlagStr at h
  split at h
  · cases h; exact Nat.le_refl _
  · have := Reader.step_pos h; omega

-- In the lemmas below the error branches return no cursor: `cases h` disposes of them and leaves
-- the successful paths, with the successful reads as hypotheses in program order.
theorem readStrs_pos {a : BinArchive} {flags : List Nat} (is : List Nat) (r : Reader) {v r'}
    (h : readStrs a flags is r = .ok (v, r')) : r.pos ≤ r'.pos := by
  fun_induction readStrs a flags is r generalizing v <;> cases h
  · exact Nat.le_refl _
  · next h1 _ ih h2 =>
    have := ih h2
    have := readFlagStr_pos h1
    omega

theorem readColor_pos {a : BinArchive} {r : Reader} {c r'} (h : readColor a r = .ok (c, r')) :
    r'.pos = r.pos + 4 := by
  revert h
  fun_cases readColor a r <;> intro h <;> cases h
  next h1 => exact readBytes_pos _ _ h1

theorem readVal_pos {a : BinArchive} {flags : List Nat} {i : Nat} {r : Reader} {v r'}
    (h : readVal a flags i r = .ok (v, r')) : r.pos ≤ r'.pos := by
  revert h
  fun_cases readVal a flags i r <;> intro h <;> cases h
  · next h1 =>
    have := readColor_pos h1
    omega
  · next h1 =>
    have := Reader.step_pos h1
    omega
  · exact Nat.le_refl _

theorem readVals_pos {a : BinArchive} {flags : List Nat} (is : List Nat) (r : Reader) {v r'}
    (h : readVals a flags is r = .ok (v, r')) : r.pos ≤ r'.pos := by
  fun_induction readVals a flags is r generalizing v <;> cases h
  · exact Nat.le_refl _
  · next h1 _ ih h2 =>
    have := ih h2
    have := readVal_pos h1
    omega

/-- A successfully read record starts inside the data and is not empty. -/
theorem fromStream_pos {a : BinArchive} {r : Reader} {s r'} (h : fromStream a r = .ok (s, r')) :
    r.pos < a.size ∧ r.pos < r'.pos := by
  revert h
  fun_cases fromStream a r <;> intro h <;> cases h
  · next h1 _ _ _ h2 _ _ _ h3 _ _ h4 _ _ _ h5 _ h6 =>
    have := Reader.step_pos h1
    have := readBytes_pos _ _ h2
    have := Reader.step_pos h3
    have := readStrs_pos _ _ h4
    have := readStrs_pos _ _ h5
    have := readVals_pos _ _ h6
    exact ⟨readU8_lt h1, by omega⟩
  · next h1 _ _ _ h2 _ _ _ h3 _ _ h4 =>
    have := Reader.step_pos h1
    have := readBytes_pos _ _ h2
    have := Reader.step_pos h3
    have := readStrs_pos _ _ h4
    exact ⟨readU8_lt h1, by omega⟩

set_option linter.unusedVariables false in
/-- asset_binary.rs:581-592: `while !error { match AssetSpec::from_stream(&mut reader) { … } }` —
read until the first record that fails (an `Err` ends the loop and is swallowed). -/
def readSpecs (a : BinArchive) (r : Reader) (acc : List AssetSpec) : Res (List AssetSpec) :=
  match h : fromStream a r with
  | .ok (spec, r') => readSpecs a r' (acc ++ [spec])
  | .err _ => .ok acc
  | .panic => .panic
termination_by a.size - r.pos
decreasing_by
  have := fromStream_pos h
  omega

/-- `AssetBinary::from_archive` (asset_binary.rs:576-594). -/
def fromArchive (a : BinArchive) : Res AssetBinary :=
  let r : Reader := ⟨0⟩                                                   -- :578
  match r.readU32 a with                                                  -- :579
  | .ok (flags, r) =>
    match readSpecs a r [] with                                           -- :581-592
    | .ok specs => .ok ⟨flags, specs⟩
    | .err e => .err e
    | .panic => .panic
  | .err e => .err e
  | .panic => .panic

def appendAll : List AssetSpec → BinArchive → Res BinArchive
  | [], a => .ok a
  | s :: rest, a =>
    match append s a with
    | .ok a1 => appendAll rest a1
    | .err e => .err e
    | .panic => .panic

/-- The archive `AssetBinary::serialize` builds before `archive.serialize()` (asset_binary.rs:597-603). -/
def build (b : AssetBinary) : Res BinArchive :=
  let a := (BinArchive.new .little).allocateAtEnd 4                       -- :597-598
  match a.writeUInt 0 4 b.flags with                                      -- :599
  | .ok a =>
    match appendAll b.specs a with                                        -- :600-602
    | .ok a => .ok (a.allocateAtEnd 4)                                    -- :603
    | .err e => .err e
    | .panic => .panic
  | .err e => .err e
  | .panic => .panic

/-- The same construction through the per-record public API on an archive of the caller's byte
order: `BinArchive::new(e)`, `allocate_at_end(4)`, `write_u32(0, flags)`, `AssetSpec::append` per
spec, `allocate_at_end(4)`.  (`append` and `from_stream` take whatever archive they are handed;
flag bytes and colours are bytes, `u32`/`f32` fields and the header word follow the archive's
byte order.) -/
def buildE (e : Endian) (b : AssetBinary) : Res BinArchive :=
  let a := (BinArchive.new e).allocateAtEnd 4
  match a.writeUInt 0 4 b.flags with
  | .ok a =>
    match appendAll b.specs a with
    | .ok a => .ok (a.allocateAtEnd 4)
    | .err e => .err e
    | .panic => .panic
  | .err e => .err e
  | .panic => .panic

theorem build_eq_buildE (b : AssetBinary) : build b = buildE .little b := rfl

/-- `buildE` followed by `archive.serialize()`. -/
def serializeE (c : Codec) (e : Endian) (b : AssetBinary) : Res Bytes :=
  match buildE e b with
  | .ok a => a.serialize c
  | .err er => .err er
  | .panic => .panic

/-- `AssetBinary::serialize` (asset_binary.rs:596-605). -/
def serialize (c : Codec) (b : AssetBinary) : Res Bytes :=
  match build b with
  | .ok a => a.serialize c                                                -- :604
  | .err e => .err e
  | .panic => .panic

end Mila.Asset
