/-
C18: `from_stream` returns the (normalised) spec on every archive that shows the record's cells;
the declarative layout of the whole binary (`Asset.Layout`), on which `from_archive` returns the
normalised value.
-/
import MilaModel.Lemmas.AssetLayout

namespace Mila.Asset
open Mila BinArchive Layered

theorem strs_as_map (s : AssetSpec) (h : s.strs.length = 33) :
    s.strs = (List.range' 1 33).map (strField s) := by
  apply List.ext_getElem?
  intro k
  by_cases hk : k < 33
  · rw [List.getElem?_map, List.getElem?_range' hk]
    simp only [Option.map_some, strField]
    rw [show 1 + 1 * k - 1 = k by omega, List.getElem?_eq_getElem (by omega)]
    simp
  · rw [List.getElem?_eq_none (by omega), List.getElem?_eq_none (by simp; omega)]

theorem strs_rebuild (s : AssetSpec) (h : s.strs.length = 33) :
    (List.range' 1 31).map (strField s) ++ [32, 33].map (strField s) = s.strs := by
  rw [← List.map_append, show List.range' 1 31 ++ [32, 33] = List.range' 1 33 from by decide]
  exact (strs_as_map s h).symm

theorem normalizeVals_eq (vals : List (Bool × Bytes)) :
    Spec.Asset.normalizeVals vals = vals.map normVal := rfl

theorem vals_as_map (s : AssetSpec) (h : s.vals.length = 18) :
    s.vals = (List.range' 34 18).map (valField s) := by
  apply List.ext_getElem?
  intro k
  by_cases hk : k < 18
  · rw [List.getElem?_map, List.getElem?_range' hk]
    simp only [Option.map_some, valField]
    rw [show 34 + 1 * k - 34 = k by omega, List.getD_eq_getElem?_getD, List.getElem?_eq_getElem (by omega)]
    simp
  · rw [List.getElem?_eq_none (by omega), List.getElem?_eq_none (by simp; omega)]

theorem vals_rebuild (s : AssetSpec) (h : s.vals.length = 18) :
    (List.range' 34 18).map (fun i => normVal (valField s i)) = Spec.Asset.normalizeVals s.vals := by
  rw [normalizeVals_eq]
  conv => rhs; rw [vals_as_map s h]
  rw [List.map_map]; rfl

theorem strField_of_short (s : AssetSpec) (hl : ¬ isLong s) (i : Nat) (h1 : 32 ≤ i) (h2 : i ≤ 33) :
    strField s i = none := by
  have := present_of_short s hl i h1
  rw [present_str s i (by omega) h2] at this
  exact Option.not_isSome_iff_eq_none.1 (Bool.eq_false_iff.1 this)

theorem fromStream_layout (s : AssetSpec) (hwf : SpecWF s) (b : BinArchive) (he : b.endian = .little)
    (hsmall : b.size < 2 ^ 64) (p : Nat) (hc : cellsAt b p (recordCells s)) :
    fromStream b ⟨p⟩ = .ok (normalize s, ⟨p + 4 * (recordCells s).length⟩) := by
  unfold recordCells at hc ⊢
  rw [cellsAt_append, cellsAt_append, cellsAt_append] at hc
  obtain ⟨⟨⟨hflagsC, hnameC⟩, hf1⟩, hf2⟩ := hc
  obtain ⟨raw, more, hu8, hbytes, hflags, hlong⟩ := read_flags s b hsmall p hflagsC
  have hfl := flagCells_length s
  rw [hfl] at hnameC
  simp only [List.length_append, List.length_cons, List.length_nil, Nat.mul_add, ← Nat.add_assoc, hfl]
    at hf1 hf2 ⊢
  simp only [fromStream, hu8, hbytes, hflags, readString_str hnameC.1,
    readStrs_layout s b (List.range' 1 31) _
      (fun i hi => by have := List.mem_range'_1.1 hi; rw [finalFlags_length]; split <;> omega) hf1]
  by_cases hl : isLong s
  · simp only [hl, if_true] at hf2 ⊢
    have hsplit : fieldsCells s (List.range' 32 20)
        = fieldsCells s [32, 33] ++ fieldsCells s (List.range' 34 18) :=
      fieldsCells_append s [32, 33] (List.range' 34 18)
    rw [hsplit, cellsAt_append] at hf2
    simp only [if_pos (hlong.2 hl),
      readStrs_layout s b [32, 33] _
        (fun i hi => by rw [finalFlags_length, if_pos hl]; simp at hi; omega) hf2.1,
      readVals_layout s hwf b he hsmall (List.range' 34 18) _
        (fun i hi => by have := List.mem_range'_1.1 hi; omega) hf2.2,
      Res.ok.injEq, Prod.mk.injEq, Reader.mk.injEq, normalize, strs_rebuild s hwf.1,
      vals_rebuild s hwf.2.1, true_and]
    rw [hsplit, List.length_append]
    omega
  · -- short form: the reader returns fields 32..51 as absent, and absent they are
    rw [if_neg (fun e => hl (hlong.1 e))]
    have hs := strs_rebuild s hwf.1
    simp only [List.map_cons, List.map_nil, strField_of_short s hl 32 (by omega) (by omega),
      strField_of_short s hl 33 (by omega) (by omega)] at hs
    have hv : (List.range' 34 18).map (fun i => normVal (valField s i))
        = (List.range' 34 18).map (fun _ => ((false, zero4) : Bool × Bytes)) := by
      apply List.map_congr_left
      intro i hi
      have := List.mem_range'_1.1 hi
      have hp := present_of_short s hl i (by omega)
      rw [present_val s i (by omega) (by omega)] at hp
      simp [normVal, hp]
    simp only [hl, if_false, hs, normalize, ← vals_rebuild s hwf.2.1, hv, List.length_nil, Nat.mul_zero,
      Nat.add_zero]
    rfl

def specsCells (specs : List AssetSpec) : List Cell := specs.flatMap recordCells

def fileCells (b : AssetBinary) : List Cell :=
  [.raw (leBytes 4 b.flags)] ++ specsCells b.specs ++ [.raw zero4]

/-- The declarative layout of an asset-binary archive holding `v`. -/
structure Layout (v : AssetBinary) (b : BinArchive) : Prop where
  little : b.endian = .little
  size : b.size = 4 * (fileCells v).length
  small : b.size < 2 ^ 64
  cells : cellsAt b 0 (fileCells v)

theorem recordCells_length_pos (s : AssetSpec) : 2 ≤ (recordCells s).length := by
  unfold recordCells flagCells
  by_cases hl : isLong s <;> simp [hl] <;> omega

/-- The four zero bytes at the end are not a record: its name cell falls outside the data. -/
theorem fromStream_terminator (b : BinArchive) (hsmall : b.size < 2 ^ 64) (p : Nat) (hc : cellAt b p (.raw zero4))
    (hs : b.size = p + 4) : ∃ e, fromStream b ⟨p⟩ = .err e := by
  obtain ⟨hfit, hsl, _⟩ := hc
  have hp : p < b.data.length := by unfold size at hfit; omega
  have h0 : (b.data.getD p 0).toNat = 0 := by
    have := congrArg (fun l => l[0]?) hsl
    simp only [getElem?_slice, zero4] at this
    simp at this
    rw [List.getD_eq_getElem?_getD, this]; rfl
  unfold fromStream
  rw [readU8_at (by unfold size; exact hp), h0]
  simp only [Nat.zero_and, Nat.zero_ne_one, if_false]
  rw [readBytes_slice b hsmall 3 (p + 1) (by omega)]
  simp only
  rw [show p + 1 + 3 = p + 4 by omega, readString_eof (by omega)]
  exact ⟨_, rfl⟩

theorem readSpecs_layout (b : BinArchive) (he : b.endian = .little) (hsmall : b.size < 2 ^ 64) :
    ∀ (specs : List AssetSpec) (p : Nat) (acc : List AssetSpec), (∀ s ∈ specs, SpecWF s) →
      b.size = p + 4 * (specsCells specs).length + 4 →
      cellsAt b p (specsCells specs ++ [.raw zero4]) →
      readSpecs b ⟨p⟩ acc = .ok (acc ++ specs.map normalize) := by
  intro specs
  induction specs with
  | nil =>
    intro p acc _ hs hc
    simp only [specsCells, List.flatMap_nil, List.length_nil, Nat.mul_zero, Nat.add_zero,
      List.nil_append] at hs hc
    obtain ⟨e, he'⟩ := fromStream_terminator b hsmall p hc.1 hs
    rw [readSpecs, he']
    simp
  | cons s rest ih =>
    intro p acc hwf hs hc
    simp only [specsCells, List.flatMap_cons, List.length_append, List.append_assoc] at hs hc
    rw [cellsAt_append] at hc
    have hread := fromStream_layout s (hwf s (by simp)) b he hsmall p hc.1
    rw [readSpecs, hread]
    simp only
    rw [ih _ _ (fun t ht => hwf t (by simp [ht])) (by simp only [specsCells]; omega) hc.2]
    simp

/-- Domain of the property: 32-bit header flags, every spec in its domain. -/
def BinaryWF (v : AssetBinary) : Prop := v.flags < 2 ^ 32 ∧ ∀ s ∈ v.specs, SpecWF s

def normalizeBinary (v : AssetBinary) : AssetBinary := ⟨v.flags, v.specs.map normalize⟩

/-- **Reader correctness**: on every archive with the layout of `v`, `from_archive` returns `v`
with its typed fields normalised. -/
theorem fromArchive_layout (v : AssetBinary) (hwf : BinaryWF v) (b : BinArchive) (h : Layout v b) :
    fromArchive b = .ok (normalizeBinary v) := by
  have hc := h.cells
  unfold fileCells at hc
  rw [List.append_assoc, cellsAt_append] at hc
  simp only [fromArchive, readU32_raw h.little hc.1.1, ofLe_leBytes_of_lt (k := 4) hwf.1]
  have hs : b.size = 4 + 4 * (specsCells v.specs).length + 4 := by
    rw [h.size]; simp only [fileCells, List.length_append, List.length_cons, List.length_nil]; omega
  have hc2 := hc.2
  simp only [List.length_cons, List.length_nil] at hc2
  rw [readSpecs_layout b h.little h.small v.specs 4 [] hwf.2 hs (by simpa using hc2)]
  simp [normalizeBinary]

theorem Layout.transfer {v : AssetBinary} {a b : BinArchive} (hp : Plain a) (hl : Layout v a)
    (h : SameContent a b) : Layout v b :=
  ⟨by rw [h.endian]; exact hl.little, by rw [h.size]; exact hl.size, by rw [h.size]; exact hl.small,
    cellsAt_transfer hp h _ 0 (by decide) hl.cells⟩

end Mila.Asset
