/-
C19 (used again by the TPL reader of C20): the GameCube/Wii palette-image path of `tpl.rs` —
`ColorFormat::decode` of an RGB5A3 palette, `block_to_sequential` for 8×4 blocks, `crop`,
`ColorFormat::decode_indexed` — and their composition `tplDecodeImage 2 palette 9 h w image`:
pixel `(x, y)` is the palette entry whose index sits at `ci8Offset (pad8 w) x y` of the image data,
for every width and height from 1 up.
-/
import MilaModel.Lemmas.PixelLoops
import MilaModel.Spec.Morton

namespace Mila.Pixel
open Spec.Morton

theorem push4_size (out : Buf) (a b c d : UInt8) :
    ((((out.push a).push b).push c).push d).size = out.size + 4 := by
  simp only [Array.size_push]

theorem push_getD (out : Buf) (a : UInt8) (i : Nat) :
    (out.push a).getD i 0 = if i = out.size then a else out.getD i 0 := by
  simp only [Array.getD_eq_getD_getElem?, Array.getElem?_push]
  split <;> simp

/-- `out` consists of `k` items of four bytes, byte `c` of item `i` being `E i c`. -/
def Quads (E : Nat → Nat → UInt8) (k : Nat) (out : Buf) : Prop :=
  out.size = 4 * k ∧ ∀ i c, i < k → c < 4 → out.getD (4 * i + c) 0 = E i c

theorem Quads.empty (E : Nat → Nat → UInt8) : Quads E 0 #[] :=
  ⟨rfl, fun _ _ hi => absurd hi (Nat.not_lt_zero _)⟩

theorem Quads.push {E : Nat → Nat → UInt8} {k : Nat} {out : Buf} (h : Quads E k out) {a b c d : UInt8}
    (ha : a = E k 0) (hb : b = E k 1) (hc : c = E k 2) (hd : d = E k 3) :
    Quads E (k + 1) ((((out.push a).push b).push c).push d) := by
  obtain ⟨hs, hg⟩ := h
  refine ⟨by rw [push4_size, hs]; omega, fun i j hi hj => ?_⟩
  simp only [push_getD, Array.size_push, hs]
  by_cases hik : i < k
  · rw [if_neg (by omega), if_neg (by omega), if_neg (by omega), if_neg (by omega)]
    exact hg i j hik hj
  · have hik' : i = k := by omega
    have hj' : j = 0 ∨ j = 1 ∨ j = 2 ∨ j = 3 := by omega
    subst hik'
    rcases hj' with rfl | rfl | rfl | rfl
    · rw [if_neg (by omega), if_neg (by omega), if_neg (by omega), if_pos (by omega), ha]
    · rw [if_neg (by omega), if_neg (by omega), if_pos (by omega), hb]
    · rw [if_neg (by omega), if_pos (by omega), hc]
    · rw [if_pos (by omega), hd]

theorem decodeLoop_rgb5a3 (data : Buf) : ∀ n k out,
    Quads (fun i c => chanByte (decodeRgb5a3 (data.beN (2 * i) 2)) c) k out →
    Quads (fun i c => chanByte (decodeRgb5a3 (data.beN (2 * i) 2)) c) (k + n)
      (decodeLoop .RGB5A3 data n (2 * k) out) := by
  intro n
  induction n with
  | zero => intro k out h; exact h
  | succ n ih =>
    intro k out h
    have e : k + (n + 1) = k + 1 + n := by omega
    rw [decodeLoop, e]
    exact ih (k + 1) _ (h.push rfl rfl rfl rfl)

/-- `ColorFormat::RGB5A3.decode`: big-endian 16-bit values, four bytes out per value. -/
theorem rgb5a3_decode (data : Buf) (he : data.size % 2 = 0) :
    ∃ out, ColorFormat.RGB5A3.decode data = .ok out ∧ out.size = 4 * (data.size / 2) ∧
      ∀ i c, i < data.size / 2 → c < 4 →
        out.getD (4 * i + c) 0 = chanByte (decodeRgb5a3 (data.beN (2 * i) 2)) c := by
  have h := decodeLoop_rgb5a3 data (data.size / 2) 0 #[] (Quads.empty _)
  rw [Nat.zero_add] at h
  exact ⟨_, by simp [ColorFormat.decode, ColorFormat.isIndexed, ColorFormat.bytesPerPixel, he], h.1, h.2⟩

theorem indexedLoop_ok (data palette : Buf) (N : Nat)
    (hidx : ∀ i, i < N → data.byteAt i < palette.size / 4) :
    ∀ n k out, k + n ≤ N → Quads (fun i c => palette.getD (data.byteAt i * 4 + c) 0) k out →
      ∃ out', indexedLoop data palette n k out = .ok out' ∧
        Quads (fun i c => palette.getD (data.byteAt i * 4 + c) 0) (k + n) out' := by
  intro n
  induction n with
  | zero => intro k out _ h; exact ⟨out, rfl, h⟩
  | succ n ih =>
    intro k out hk h
    have e : k + (n + 1) = k + 1 + n := by omega
    rw [indexedLoop, if_neg (Nat.not_le.2 (hidx k (by omega))), e]
    exact ih (k + 1) _ (by omega) (h.push rfl rfl rfl rfl)

/-- `ColorFormat::CI8.decode_indexed`: four palette bytes per index byte. -/
theorem decodeIndexed_ci8 (data palette : Buf) (hp : palette.size % 4 = 0)
    (hidx : ∀ i, i < data.size → data.byteAt i < palette.size / 4) :
    ∃ out, ColorFormat.CI8.decodeIndexed data palette = .ok out ∧ out.size = 4 * data.size ∧
      ∀ i c, i < data.size → c < 4 →
        out.getD (4 * i + c) 0 = palette.getD (data.byteAt i * 4 + c) 0 := by
  obtain ⟨out, ho, h⟩ := indexedLoop_ok data palette data.size hidx data.size 0 #[] (by omega)
    (Quads.empty _)
  rw [Nat.zero_add] at h
  exact ⟨out, by simp [ColorFormat.decodeIndexed, ColorFormat.isIndexed, hp, ho], h.1, h.2⟩

/-- Position `bi` of block `(bc, br)` is cell `(x, y)`, in both coordinate systems. -/
theorem b2s_cell {x y bc br bi : Nat} (hbi : bi < 32) :
    (x = bc * 8 + bi % 8 ∧ y = br * 4 + bi / 8) ↔ (y / 4 = br ∧ x / 8 = bc ∧ y % 4 * 8 + x % 8 = bi) := by
  omega

/-- Step `bi` of block `bn` fills the cell whose block number and position in the block they are. -/
theorem b2sStep_fills {image : Buf} {aw ah bn bi : Nat} (hw : aw % 8 = 0) (hh : ah % 4 = 0)
    (hd : image.size = ah * aw) (hbn : bn < ah / 4 * (aw / 8)) (hbi : bi < 32) (s : Buf)
    (hs : s.size = ah * aw) :
    (b2sStep image aw 8 4 (aw / 8) 32 bn bi s).size = ah * aw ∧
    Fills (cellByte aw) (fun i => image.getD (ci8Offset aw i.1 i.2) 0)
      (fun i => i.1 < aw) (fun i => i.2 / 4 * (aw / 8) + i.1 / 8 = bn ∧ i.2 % 4 * 8 + i.1 % 8 = bi)
      s (b2sStep image aw 8 4 (aw / 8) 32 bn bi s) := by
  have harea : ah * aw = ah / 4 * (aw / 8) * 32 := area_split hh hw
  have hnb : 0 < aw / 8 := Nat.pos_of_ne_zero (fun h => by rw [h] at hbn; exact absurd hbn (by omega))
  have hbc : bn % (aw / 8) < aw / 8 := Nat.mod_lt _ hnb
  have hbr : bn / (aw / 8) < ah / 4 := (Nat.div_lt_iff_lt_mul hnb).2 hbn
  have hdm : bn / (aw / 8) * (aw / 8) + bn % (aw / 8) = bn := by
    rw [Nat.mul_comm]; exact Nat.div_add_mod bn (aw / 8)
  simp only [b2sStep]
  generalize bn / (aw / 8) = br at *
  generalize bn % (aw / 8) = bc at *
  have hX : bc * 8 + bi % 8 < aw := by omega
  have hY : br * 4 + bi / 8 < ah := by omega
  have hidx := idx_lt hX hY
  have hout : br * aw * 4 + bi / 8 * aw + bc * 8 + bi % 8 = (br * 4 + bi / 8) * aw + (bc * 8 + bi % 8) := by
    rw [Nat.add_mul, Nat.mul_right_comm br 4 aw]; omega
  have hin : bn * 32 + bi < image.size := by
    have : (bn + 1) * 32 ≤ ah / 4 * (aw / 8) * 32 := Nat.mul_le_mul_right _ hbn
    omega
  rw [hout, if_pos ⟨hin, by rw [hs]; exact hidx⟩]
  refine ⟨by rw [Array.size_setIfInBounds]; exact hs,
    set_fills _ _ aw _ _ _ s hX (by rw [hs]; exact hidx) (fun i hi => ?_) (fun i hA => ?_)⟩
  · rw [b2s_cell hbi]
    constructor
    · rintro ⟨h1, h2⟩
      obtain ⟨e1, e2⟩ := idx_inj (Nat.div_lt_div_of_lt_of_dvd (Nat.dvd_of_mod_eq_zero hw) hi) hbc
        (h1.trans hdm.symm)
      exact ⟨e2, e1, h2⟩
    · rintro ⟨h3, h4, h2⟩
      exact ⟨by rw [h3, h4]; exact hdm, h2⟩
  · rw [ci8Offset, Nat.add_assoc, hA.1, hA.2]

/-- `block_to_sequential` with 8×4 blocks on a whole number of blocks: cell `(x, y)` of the
row-major result is the byte at the block position `ci8Offset aw x y`. -/
theorem blockToSequential_ci8 {image : Buf} {aw ah : Nat} (hw : aw % 8 = 0) (hh : ah % 4 = 0)
    (hd : image.size = ah * aw) :
    ∃ seq, blockToSequential image aw ah 8 4 = .ok seq ∧ seq.size = ah * aw ∧
      ∀ x y, x < aw → y < ah → seq.getD (y * aw + x) 0 = image.getD (ci8Offset aw x y) 0 := by
  have hnum : aw * ah / 32 = ah / 4 * (aw / 8) := by
    rw [Nat.mul_comm aw ah, area_split hh hw]; exact Nat.mul_div_cancel _ (by decide)
  obtain ⟨seq, hseq, hsz, hF⟩ := forRange_fills (cellByte aw)
    (fun i => image.getD (ci8Offset aw i.1 i.2) 0) (fun i => i.1 < aw) _
    (fun _ s => s.size = ah * aw) _ (ah / 4 * (aw / 8))
    (fun bn s hbn hs => forRange_fills _ _ _ _ (fun _ s => s.size = ah * aw) _ 32
      (fun bi s hbi hs => ⟨_, rfl, b2sStep_fills hw hh hd hbn hbi s hs⟩) s hs)
    (Buf.zeros (aw * ah)) (by simp [Buf.zeros, Nat.mul_comm])
  rw [← hnum] at hseq
  refine ⟨seq, hseq, hsz, fun x y hx hy => ?_⟩
  have hx8 : x / 8 < aw / 8 := by omega
  have hy4 : y / 4 < ah / 4 := by omega
  exact (hF (x, y) hx).1 ⟨_, idx_lt hx8 hy4, _, by omega, rfl, rfl⟩

theorem crop_ok {seq : Buf} {aw ah w h : Nat} (hw : w ≤ aw) (hh : h ≤ ah) (hs : seq.size = ah * aw) :
    ∃ out, crop seq aw w h = .ok out ∧ out.size = h * w ∧
      ∀ x y, x < w → y < h → out.getD (y * w + x) 0 = seq.getD (y * aw + x) 0 := by
  apply forRange_inv _ (fun r out => out.size = r * w ∧
      ∀ x y, x < w → y < r → out.getD (y * w + x) 0 = seq.getD (y * aw + x) 0) h #[]
    ⟨by simp, by intro x y _ hy; omega⟩
  intro r out hr inv
  obtain ⟨hsz, hg⟩ := inv
  have hle : r * aw + w ≤ seq.size := by
    have : (r + 1) * aw ≤ ah * aw := Nat.mul_le_mul_right aw (by omega)
    rw [Nat.succ_mul] at this
    omega
  refine ⟨out ++ seq.extract (r * aw) (r * aw + w), by simp only [if_pos hle], ?_, ?_⟩
  · rw [Array.size_append, Array.size_extract, hsz, Nat.succ_mul]; omega
  · intro x y hx hy
    simp only [Array.getD_eq_getD_getElem?, Array.getElem?_append, Array.getElem?_extract]
    by_cases hyr : y < r
    · have := idx_lt hx hyr
      rw [if_pos (by omega)]
      have := hg x y hx hyr
      simpa only [Array.getD_eq_getD_getElem?] using this
    · have hyr' : y = r := by omega
      subst hyr'
      rw [if_neg (by omega), if_pos (by omega)]
      have : y * w + x - out.size = x := by omega
      rw [this]

theorem align_8 (w : Nat) : align w 8 = pad8 w := by
  simp only [align, pad8]
  split
  · omega
  · split <;> omega

theorem align_4 (h : Nat) : align h 4 = (h + 3) / 4 * 4 := by
  simp only [align]
  split
  · omega
  · split <;> omega

theorem ci8_decode (palette image : Buf) (w h : Nat) (hw : 0 < w) (_hh : 0 < h)
    (hp : palette.size % 2 = 0)
    (hi : image.size = ((h + 3) / 4 * 4) * pad8 w)
    (hidx : ∀ x y, x < w → y < h →
      (image.getD (ci8Offset (pad8 w) x y) 0).toNat < palette.size / 2) :
    ∃ out, tplDecodeImage 2 palette 9 h w image = .ok out ∧ out.size = 4 * (h * w) ∧
      ∀ x y c, x < w → y < h → c < 4 →
        out.getD ((y * w + x) * 4 + c) 0 =
          chanByte (decodeRgb5a3 (palette.beN (2 * (image.getD (ci8Offset (pad8 w) x y) 0).toNat) 2)) c := by
  obtain ⟨pal, hpal, hpsz, hpg⟩ := rgb5a3_decode palette hp
  have haw := align_8 w
  have hah := align_4 h
  have hw8 : pad8 w % 8 = 0 ∧ w ≤ pad8 w := by unfold pad8; omega
  have hh4 : (h + 3) / 4 * 4 % 4 = 0 ∧ h ≤ (h + 3) / 4 * 4 := by omega
  generalize pad8 w = aw at hi hidx haw hw8 ⊢
  generalize (h + 3) / 4 * 4 = ah at hi hah hh4
  obtain ⟨seq, hseq, hssz, hsg⟩ := blockToSequential_ci8 hw8.1 hh4.1 hi
  obtain ⟨crp, hcrp, hcsz, hcg⟩ := crop_ok hw8.2 hh4.2 hssz
  have hcell : ∀ x y, x < w → y < h → crp.byteAt (y * w + x) = (image.getD (ci8Offset aw x y) 0).toNat := by
    intro x y hx hy
    unfold Buf.byteAt
    rw [hcg x y hx hy, hsg x y (by omega) (by omega)]
  have hcidx : ∀ j, j < crp.size → crp.byteAt j < pal.size / 4 := by
    intro j hj
    obtain ⟨x, y, hx, hy, rfl⟩ := idx_surj hw (hcsz ▸ hj)
    have h2 := hidx x y hx hy
    rw [hcell x y hx hy]
    omega
  obtain ⟨out, hout, hosz, hog⟩ := decodeIndexed_ci8 crp pal (by omega) hcidx
  refine ⟨out, ?_, by rw [hosz, hcsz], ?_⟩
  · simp only [tplDecodeImage, tplPaletteColorFormat, tplBlockDims, tplImageColorFormat, hpal, haw, hah,
      hseq, hcrp, hout, Res.bind_ok]
  · intro x y c hx hy hc
    have e : (y * w + x) * 4 + c = 4 * (y * w + x) + c := by omega
    rw [e, hog _ c (by rw [hcsz]; exact idx_lt hx hy) hc, hcell x y hx hy,
      Nat.mul_comm _ 4, hpg _ c (hidx x y hx hy) hc]

end Mila.Pixel
