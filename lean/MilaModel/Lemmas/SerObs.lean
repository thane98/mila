/-
C01, stated on the observables of the re-parsed archive: size, raw bytes, strings, pointers,
c-strings (through `readCString`) and labels.
-/
import MilaModel.Lemmas.SerRound

namespace Mila.Ser
open Mila.BinArchive
open Spec.Image

theorem strAt_iff_getElem {f : Bytes} {pos : Nat} {b : Bytes} :
    StrAt f pos b ↔ ∀ j, j < b.length + 1 → f[pos + j]? = (b ++ [0])[j]? := by
  unfold StrAt
  constructor
  · intro h j hj
    rw [← h, List.getElem?_take, if_pos hj, List.getElem?_drop]
  · intro h
    apply List.ext_getElem?
    intro j
    rw [List.getElem?_take, List.getElem?_drop]
    by_cases hj : j < b.length + 1
    · rw [if_pos hj]; exact h j hj
    · rw [if_neg hj, List.getElem?_eq_none]
      rw [List.length_append, List.length_singleton]
      exact Nat.le_of_not_lt hj

theorem readCString_of_strAt (c : Codec) {a : BinArchive} {x t : Nat} {bs : Bytes}
    (hx : x + 4 ≤ a.data.length) (hp : UMap.get a.pointers x = some t) (ht : t < a.data.length)
    (h0 : (0 : UInt8) ∉ bs) (hs : StrAt a.data t bs) : readCString c a x = .ok (some (c.dec bs)) := by
  unfold readCString readPointer
  rw [validateCell_ok a x hx]
  simp only [hp]
  rw [validateAddress_lt (n := a.size) ht]
  simp only []
  rw [cstrBytes_of_strAt bs _ h0 hs]

section obs
variable {c : Codec} {D : Str → Prop} {a b : BinArchive} {f : Bytes}

theorem RoundTrip.ctx (h : RoundTrip c D a f b) : Ctx c D a.endian f (contentPlus c a) :=
  ctx_of_archive c D a h.wf h.faithful h.dom h.conf

theorem rt_size (h : RoundTrip c D a f b) : b.size = a.size + (cstrPool c a).length := by
  unfold size
  rw [Base.length h.ctx ⟨h.parsed.data, h.parsed.endian⟩]
  exact List.length_append

/-- Raw bytes outside annotated cells survive (the data of `b` continues with the pool). -/
theorem rt_bytes (h : RoundTrip c D a f b) (i : Nat)
    (hc : ∀ x ∈ archCells a, i < x ∨ x + 4 ≤ i) :
    b.data[i]? = (a.data ++ cstrPool c a)[i]? := by
  have hce := parsed_contentEq h.ctx h.parsed
  have : ¬ (contentPlus c a).covered i := by
    rintro ⟨x, hx, h1, h2⟩
    have := hc x ((contentPlus_cells_perm c a).mem_iff.mp hx)
    omega
  exact (hce.bytes i this).symm

theorem rt_string (h : RoundTrip c D a f b) (x : Nat) : UMap.get b.text x = UMap.get a.text x :=
  UMap.get_perm (((h.parsed.text.map _).nodup_iff).mpr (strKeys_nodup (contentPlus_wf c a h.wf)))
    h.parsed.text x

theorem rt_pointer_keys_nodup (h : RoundTrip c D a f b) : (b.pointers.map (·.1)).Nodup :=
  ((h.parsed.pointers.map _).nodup_iff).mpr (ptrKeys_nodup (contentPlus_wf c a h.wf))

/-- Every pointer of the image's content, internal or into the pool, is read back. -/
theorem rt_pointer_plus (h : RoundTrip c D a f b) {p : Nat × Nat}
    (hp : p ∈ (contentPlus c a).pointers) : UMap.get b.pointers p.1 = some p.2 :=
  (UMap.mem_iff_get (rt_pointer_keys_nodup h) p).mp (h.parsed.pointers.mem_iff.mpr hp)

theorem rt_pointer (h : RoundTrip c D a f b) {p : Nat × Nat} (hp : p ∈ a.pointers) :
    UMap.get b.pointers p.1 = some p.2 :=
  rt_pointer_plus h (List.mem_append_left _ hp)

theorem rt_labels (h : RoundTrip c D a f b) (x : Nat) :
    (UMap.get b.labels x).getD [] = (UMap.get a.labels x).getD [] :=
  h.parsed.labels x

/-- **`read_c_string` on the re-parsed archive returns every pending c-string.** -/
theorem rt_cstring (h : RoundTrip c D a f b) {q : Str × List Nat} (hq : q ∈ a.cstrings)
    {x : Nat} (hx : x ∈ q.2) : readCString c b x = .ok (some q.1) := by
  obtain ⟨bs, hbs, h0, hdec⟩ := h.faithful q.1 (h.dom.cstrings q hq)
  have hx4 : x + 4 ≤ a.data.length := h.wf.inside x
    (List.mem_append_left _ (List.mem_append_right _ (List.mem_flatMap.mpr ⟨q, hq, hx⟩)))
  have hsize : b.data.length = a.data.length + (cstrPool c a).length := rt_size h
  -- the pointer stored for the cell
  have hmemS : q ∈ cstrSorted c a := List.mem_mergeSort.mpr hq
  have hget : UMap.get b.pointers x = some (a.data.length + offsetIn c.enc (cstrKeys c a) q.1) :=
    rt_pointer_plus h (p := (x, _)) (List.mem_append_right _
      (List.mem_flatMap.mpr ⟨q, hmemS, List.mem_map.mpr ⟨x, hx, rfl⟩⟩))
  -- the string sits in the pool, hence in the data of `b`
  have hk : q.1 ∈ cstrKeys c a := (mem_dedup _ _).mpr (List.mem_map_of_mem hmemS)
  have hpool : StrAt (a.data ++ cstrPool c a) (a.data.length + offsetIn c.enc (cstrKeys c a) q.1) bs :=
    (strAt_append_right rfl _ _ _).mpr (strAt_append_left (strAt_pool c.enc (cstrKeys c a) q.1 bs hk hbs) _)
  have hstr : StrAt b.data (a.data.length + offsetIn c.enc (cstrKeys c a) q.1) bs := by
    refine strAt_iff_getElem.mpr fun j hj => ?_
    rw [rt_bytes h _ fun y hy => Or.inr (by have := h.wf.inside y hy; omega)]
    exact strAt_iff_getElem.mp hpool j hj
  have hlt : offsetIn c.enc (cstrKeys c a) q.1 < (cstrPool c a).length :=
    Nat.lt_of_lt_of_le (Nat.lt_of_lt_of_le (Nat.lt_add_of_pos_right (entry_length_pos c.enc q.1))
      (offsetIn_entry_le c.enc (cstrKeys c a) q.1 hk)) (padTo4_length_ge _)
  rw [readCString_of_strAt c (by omega) hget (by omega) h0 hstr, hdec]
/-- No pointer is invented: a cell that holds neither a pointer nor a pending c-string has none
after the round trip. -/
theorem rt_pointer_none (h : RoundTrip c D a f b) {x : Nat}
    (h1 : ∀ p ∈ a.pointers, p.1 ≠ x) (h2 : ∀ q ∈ a.cstrings, x ∉ q.2) :
    UMap.get b.pointers x = none := by
  rw [UMap.get_eq_none_iff]
  intro p hp e
  have hp' := h.parsed.pointers.mem_iff.mp hp
  rcases List.mem_append.mp hp' with hp' | hp'
  · exact h1 p hp' e
  · obtain ⟨q, hq, hx, _, _⟩ := cstrPointer_target_lt c a hp'
    exact h2 q hq (e ▸ hx)

end obs

end Mila.Ser
