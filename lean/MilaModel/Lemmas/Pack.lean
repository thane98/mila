/-
Lemmas for C15 (pack archive): placement of a byte string inside an image (`At`), chunk layouts,
the closed forms of the loops of `Fe9Arc.parse` and `serialize`, the image `serialize` builds
(`imageOf`) with its layout, and that the parser never panics.
-/
import MilaModel.Model.Fe9Arc
import MilaModel.Spec.PackImage
import MilaModel.Lemmas.Bytes
import MilaModel.Lemmas.Res
import MilaModel.Lemmas.UMap

namespace Mila.PackLemmas
open Mila Mila.Fe9Arc
open Mila.Spec.Pack (At word EntryOk ConformsPack Aligned32)

theorem At_right (pre b : Bytes) : At (pre ++ b) pre.length b := by
  simp [At]

theorem At_left {x : Bytes} {off : Nat} {b : Bytes} (h : At x off b) (y : Bytes) :
    At (x ++ y) off b := by
  obtain ⟨h1, h2⟩ := h
  refine ⟨by rw [List.length_append]; omega, ?_⟩
  rw [List.drop_append_of_le_length (by omega), List.take_append_of_le_length (by simp; omega), h2]

theorem At_lt {img : Bytes} {off : Nat} {b : Bytes} (h : At img off b) {n : Nat}
    (hn : img.length < n) : off < n ∧ b.length < n :=
  ⟨Nat.lt_of_le_of_lt (Nat.le_trans (Nat.le_add_right _ _) h.1) hn,
   Nat.lt_of_le_of_lt (Nat.le_trans (Nat.le_add_left _ _) h.1) hn⟩

theorem At_prefix {img : Bytes} {off : Nat} {x y : Bytes} (h : At img off (x ++ y)) :
    At img off x := by
  obtain ⟨h1, h2⟩ := h
  refine ⟨by simp at h1; omega, ?_⟩
  have := congrArg (List.take x.length) h2
  simpa [List.take_take, Nat.min_eq_left (Nat.le_add_right _ _)] using this

theorem At_suffix {img : Bytes} {off : Nat} {x y : Bytes} (h : At img off (x ++ y)) :
    At img (off + x.length) y := by
  obtain ⟨h1, h2⟩ := h
  refine ⟨by simp at h1; omega, ?_⟩
  have := congrArg (List.drop x.length) h2
  simp only [List.length_append, List.drop_left] at this
  rw [← this, List.drop_take, ← List.drop_drop]
  simp

theorem word_of_At {img : Bytes} {off : Nat} {b : Bytes} (h : At img off b) :
    word img off b.length = some (ofBe b) := by
  obtain ⟨h1, h2⟩ := h
  simp [word, h1, h2]

theorem At_drop {img : Bytes} {off : Nat} {b : Bytes} (h : At img off b) :
    img.drop off = b ++ (img.drop off).drop b.length := by
  have := List.take_append_drop b.length (img.drop off)
  rw [h.2] at this; exact this.symm

theorem readBe_eq (raw : Bytes) (pos k : Nat) :
    readBe raw pos k = match word raw pos k with
      | some v => .ok (v, pos + k)
      | none => .err .Eof := by
  unfold readBe word; split <;> simp_all

theorem le_of_word {img : Bytes} {off k v : Nat} (h : word img off k = some v) :
    off + k ≤ img.length := by
  unfold word at h
  split at h
  · assumption
  · cases h

theorem entryOk_iff {enc : Bytes → Option Bytes} {img : Bytes} {i : Nat} {kv : Bytes × Bytes} :
    EntryOk enc img i kv ↔ ∃ na fa name,
      word img (8 + 16 * i + 4) 4 = some na ∧ word img (8 + 16 * i + 8) 4 = some fa ∧
      word img (8 + 16 * i + 12) 4 = some kv.2.length ∧ enc kv.1 = some name ∧
      At img na (name ++ [0]) ∧ At img fa kv.2 := by
  unfold EntryOk
  split
  · rename_i na fa sz name h1 h2 h3 h4
    rw [h1, h2, h3, h4]
    constructor
    · rintro ⟨rfl, hn, hb⟩; exact ⟨na, fa, name, rfl, rfl, rfl, rfl, hn, hb⟩
    · rintro ⟨_, _, _, ⟨⟩, ⟨⟩, e3, ⟨⟩, hn, hb⟩; exact ⟨Option.some.inj e3, hn, hb⟩
  · rename_i hnone
    constructor
    · exact False.elim
    · rintro ⟨na, fa, name, h1, h2, h3, h4, _⟩; exact hnone _ _ _ _ h1 h2 h3 h4

theorem cstrBytes_append {b : Bytes} (h : (0 : UInt8) ∉ b) (rest : Bytes) :
    cstrBytes (b ++ 0 :: rest) = some b := by
  induction b with
  | nil => simp [cstrBytes]
  | cons x xs ih =>
    have hx : x ≠ 0 := by intro e; apply h; simp [e]
    have hxs : (0 : UInt8) ∉ xs := by intro e; apply h; simp [e]
    simp [cstrBytes, hx, ih hxs]

theorem sjisAt_of_At {c : Codec} {img : Bytes} {off : Nat} {b : Bytes} (h0 : (0 : UInt8) ∉ b)
    (h : At img off (b ++ [0])) : sjisAt c img off = .ok (c.dec b) := by
  unfold sjisAt
  rw [At_drop h, List.append_assoc]
  simp [cstrBytes_append h0]

/-- The record the parser reads at `pos` (all three words; defaults never used when in range). -/
def entryOf (img : Bytes) (pos : Nat) : Entry :=
  ⟨(word img (pos + 4) 4).getD 0, (word img (pos + 4 + 4) 4).getD 0,
   (word img (pos + 4 + 4 + 4) 4).getD 0⟩

theorem readEntry_ok {img : Bytes} {pos : Nat} (h : pos + 16 ≤ img.length) :
    readEntry img pos = .ok (entryOf img pos, pos + 16) := by
  have h1 : pos + 4 ≤ img.length := by omega
  have h2 : pos + 4 + 4 ≤ img.length := by omega
  have h3 : pos + 4 + 4 + 4 ≤ img.length := by omega
  have h4 : pos + 4 + 4 + 4 + 4 ≤ img.length := by omega
  simp [readEntry, readBe, entryOf, word, h1, h2, h3, h4]

theorem readEntries_ok (img : Bytes) : ∀ (n k : Nat), (n = 0 ∨ 8 + 16 * (k + n) ≤ img.length) →
    readEntries img n (8 + 16 * k) =
      .ok ((List.range' k n).map (fun i => entryOf img (8 + 16 * i))) := by
  intro n
  induction n with
  | zero => intro k _; simp [readEntries]
  | succ n ih =>
    intro k hb
    have hr := readEntry_ok (img := img) (pos := 8 + 16 * k) (by omega)
    rw [show 8 + 16 * k + 16 = 8 + 16 * (k + 1) by omega] at hr
    simp only [readEntries, hr, ih (k + 1) (by omega), List.range'_succ, List.map_cons]

theorem imInsert_fresh (acc : Files) (k : Str) (v : Bytes) (h : k ∉ acc.map (·.1)) :
    imInsert acc k v = acc ++ [(k, v)] :=
  UMap.insert_of_not_mem acc k v h

theorem readFile_ok {c : Codec} {D : Str → Prop} (hf : c.Faithful D) {img : Bytes} {i : Nat}
    {kv : Str × Bytes} (hE : EntryOk c.enc img i kv) (hD : D kv.1) {acc : Files}
    (hfresh : kv.1 ∉ acc.map (·.1)) :
    readFile c img acc (entryOf img (8 + 16 * i)) = .ok (acc ++ [kv]) := by
  obtain ⟨na, fa, name, h1, h2, h3, h4, hname, hbody⟩ := entryOk_iff.mp hE
  obtain ⟨b, hb, hz, hdec⟩ := hf kv.1 hD
  cases h4.symm.trans hb
  have hent : entryOf img (8 + 16 * i) = ⟨na, fa, kv.2.length⟩ := by
    simp only [entryOf, Nat.add_assoc, Nat.reduceAdd] at h1 h2 h3 ⊢
    rw [h1, h2, h3]; rfl
  simp only [hent, readFile, sjisAt_of_At hz hname, hdec, hbody.1, if_true, hbody.2,
    imInsert_fresh acc _ _ hfresh]

theorem readFiles_ok {c : Codec} {D : Str → Prop} (hf : c.Faithful D) (img : Bytes) :
    ∀ (kvs : Files) (k : Nat) (acc : Files),
      (∀ i, (h : i < kvs.length) → EntryOk c.enc img (k + i) kvs[i]) →
      (∀ kv ∈ kvs, D kv.1) →
      ((acc ++ kvs).map (·.1)).Nodup →
      readFiles c img acc ((List.range' k kvs.length).map (fun i => entryOf img (8 + 16 * i)))
        = .ok (acc ++ kvs) := by
  intro kvs
  induction kvs with
  | nil => intro k acc _ _ _; simp [readFiles]
  | cons kv rest ih =>
    intro k acc hE hD hN
    have hfresh : kv.1 ∉ acc.map (·.1) := UMap.not_mem_keys_of_nodup_append hN
    have hrest := ih (k + 1) (acc ++ [kv])
      (fun i h => (show k + (i + 1) = k + 1 + i by omega) ▸ hE (i + 1) (Nat.succ_lt_succ h))
      (fun x hx => hD x (List.mem_cons_of_mem _ hx))
      (by rwa [List.append_assoc])
    have h0 : EntryOk c.enc img k kv := hE 0 (Nat.zero_lt_succ _)
    simp only [List.length_cons, List.range'_succ, List.map_cons, readFiles,
      readFile_ok hf h0 (hD kv List.mem_cons_self) hfresh, hrest, List.append_assoc, List.cons_append,
      List.nil_append]

/-! The parser never panics: every function passes on the outcomes of its callees and adds no panic
of its own; one case per path through the function, and a path that ends in a callee's panic
contradicts that callee's lemma. -/

theorem readBe_total (raw : Bytes) (pos k : Nat) : readBe raw pos k ≠ .panic :=
  Res.guard_ne_panic nofun

theorem readEntry_total (raw : Bytes) (pos : Nat) : readEntry raw pos ≠ .panic := by
  fun_cases readEntry raw pos <;> simp_all [readBe_total]

theorem readEntries_total (raw : Bytes) (n pos : Nat) : readEntries raw n pos ≠ .panic := by
  fun_induction readEntries raw n pos <;> simp_all [readEntry_total]

theorem sjisAt_total (c : Codec) (raw : Bytes) (pos : Nat) : sjisAt c raw pos ≠ .panic := by
  unfold sjisAt; split <;> nofun

theorem readFile_total (c : Codec) (raw : Bytes) (acc : Files) (e : Entry) :
    readFile c raw acc e ≠ .panic := by
  fun_cases readFile c raw acc e <;> simp_all [sjisAt_total]

theorem readFiles_total (c : Codec) (raw : Bytes) (acc : Files) (es : List Entry) :
    readFiles c raw acc es ≠ .panic := by
  fun_induction readFiles c raw acc es <;> simp_all [readFile_total]

theorem parse_total (c : Codec) (raw : Bytes) : parse c raw ≠ .panic := by
  fun_cases parse c raw <;> simp_all [readBe_total, readEntries_total, readFiles_total]

/-- Start offsets of consecutive chunks laid out from `s`. -/
def offsFrom : Nat → List Bytes → List Nat
  | _, [] => []
  | s, t :: ts => s :: offsFrom (s + t.length) ts

@[simp] theorem offsFrom_length (s : Nat) (cs : List Bytes) : (offsFrom s cs).length = cs.length := by
  induction cs generalizing s with
  | nil => rfl
  | cons t ts ih => simp [offsFrom, ih]

theorem At_flatten_offs : ∀ (cs : List Bytes) (pre : Bytes) (i o : Nat) (ch : Bytes),
    (offsFrom pre.length cs)[i]? = some o → cs[i]? = some ch → At (pre ++ cs.flatten) o ch := by
  intro cs
  induction cs with
  | nil => intro pre i o ch h; simp [offsFrom] at h
  | cons t ts ih =>
    intro pre i o ch ho hc
    rw [List.flatten_cons, ← List.append_assoc]
    cases i with
    | zero =>
      simp only [offsFrom, List.getElem?_cons_zero, Option.some.injEq] at ho hc
      subst ho; subst hc
      exact At_left (At_right pre t) _
    | succ i =>
      simp only [offsFrom, List.getElem?_cons_succ] at ho hc
      exact ih (pre ++ t) i o ch (by rwa [List.length_append]) hc

theorem offsFrom_const {w : Nat} : ∀ (cs : List Bytes) (s i : Nat), (∀ c ∈ cs, c.length = w) →
    i < cs.length → (offsFrom s cs)[i]? = some (s + w * i) := by
  intro cs
  induction cs with
  | nil => intro s i _ h; simp at h
  | cons t ts ih =>
    intro s i hw hi
    cases i with
    | zero => simp [offsFrom]
    | succ i =>
      simp only [offsFrom, List.getElem?_cons_succ]
      rw [ih (s + t.length) i (fun c hc => hw c (List.mem_cons_of_mem _ hc)) (Nat.lt_of_succ_lt_succ hi)]
      rw [hw t List.mem_cons_self]
      congr 1
      rw [Nat.mul_succ]; omega

theorem add_mod32 {a b : Nat} (ha : a % 32 = 0) (hb : b % 32 = 0) : (a + b) % 32 = 0 := by
  rw [Nat.add_mod, ha, hb]

theorem offsFrom_mod32 : ∀ (cs : List Bytes) (s : Nat), s % 32 = 0 → (∀ c ∈ cs, c.length % 32 = 0) →
    ∀ o ∈ offsFrom s cs, o % 32 = 0 := by
  intro cs
  induction cs with
  | nil => intro s _ _ o h; simp [offsFrom] at h
  | cons t ts ih =>
    intro s hs hc o ho
    simp only [offsFrom, List.mem_cons] at ho
    rcases ho with rfl | ho
    · exact hs
    · exact ih (s + t.length) (add_mod32 hs (hc t List.mem_cons_self))
        (fun c h => hc c (List.mem_cons_of_mem _ h)) o ho

theorem padCount_add {a : Nat} (h : a % 32 = 0) (n : Nat) : padCount (a + n) = padCount n := by
  unfold padCount; rw [Nat.add_mod, h, Nat.zero_add, Nat.mod_mod]

theorem add_padCount (n : Nat) : (n + padCount n) % 32 = 0 := by
  unfold padCount; omega

/-- `b` zero-padded to a multiple of 32 bytes: what the file loop appends for a body, since it
starts at an aligned address. -/
def pad32 (b : Bytes) : Bytes := b ++ List.replicate (padCount b.length) 0

theorem pad32_length (b : Bytes) : (pad32 b).length % 32 = 0 := by
  simp [pad32, add_padCount]

/-- The encoding of a name, where it has one. -/
def encOf (c : Codec) (kv : Str × Bytes) : Bytes := (c.enc kv.1).getD []

theorem enc_eq_encOf {c : Codec} {kv : Str × Bytes} (h : (c.enc kv.1).isSome) :
    c.enc kv.1 = some (encOf c kv) := by
  obtain ⟨b, hb⟩ := Option.isSome_iff_exists.mp h
  simp [encOf, hb]

theorem enc_isSome_of_faithful {c : Codec} {D : Str → Prop} (hf : c.Faithful D) {kv : Str × Bytes}
    (h : D kv.1) : (c.enc kv.1).isSome := by
  obtain ⟨b, hb, _, _⟩ := hf kv.1 h
  simp [hb]

def names (c : Codec) (m : Files) : List Bytes := m.map (fun kv => encOf c kv ++ [0])

def bodies (m : Files) : List Bytes := m.map (fun kv => pad32 kv.2)

theorem nameLoop_eq {c : Codec} (hl : Nat) : ∀ (m : Files),
    (∀ kv ∈ m, (c.enc kv.1).isSome) →
    ∀ (rt : Bytes) (ta : List Nat), nameLoop c hl m rt ta =
      .ok (rt ++ (names c m).flatten, ta ++ offsFrom (hl + rt.length) (names c m)) := by
  intro m
  induction m with
  | nil => intro _ rt ta; simp [nameLoop, names, offsFrom]
  | cons kv rest ih =>
    intro h rt ta
    simp only [nameLoop, enc_eq_encOf (h kv List.mem_cons_self), ih (fun x hx => h x (List.mem_cons_of_mem _ hx))]
    simp [names, offsFrom, List.append_assoc, Nat.add_assoc]

/-- From an aligned state the file loop appends the padded bodies; each starts where the previous
one ends. -/
theorem fileLoop_eq {base : Nat} (hb : base % 32 = 0) : ∀ (m : Files) (rf : Bytes)
    (info : List (Nat × Nat)), rf.length % 32 = 0 →
    (fileLoop base m (base + rf.length) rf info).2 =
      (rf ++ (bodies m).flatten,
       info ++ (offsFrom (base + rf.length) (bodies m)).zip (m.map (·.2.length))) := by
  intro m
  induction m with
  | nil => intro rf info _; simp [fileLoop, bodies, offsFrom]
  | cons kv rest ih =>
    intro rf info hrf
    have hp : padCount (base + (rf ++ kv.2).length) = padCount kv.2.length := by
      rw [List.length_append, ← Nat.add_assoc]; exact padCount_add (add_mod32 hb hrf) _
    have hrf' : rf ++ kv.2 ++ List.replicate (padCount kv.2.length) 0 = rf ++ pad32 kv.2 := by
      simp [pad32]
    have hal : (rf ++ pad32 kv.2).length % 32 = 0 := by
      rw [List.length_append]; exact add_mod32 hrf (pad32_length kv.2)
    simp only [fileLoop, hp, hrf']
    rw [ih _ _ hal]
    simp only [bodies, List.map_cons, List.flatten_cons, offsFrom, List.zip_cons_cons,
      List.append_assoc, List.length_append, Nat.add_assoc, List.cons_append, List.nil_append]

def hlOf (m : Files) : Nat := 8 + m.length * 0x10
def headOf (m : Files) : Bytes := beBytes 4 MAGIC ++ beBytes 2 (m.length % 2 ^ 16) ++ [0, 0]
def textOf (c : Codec) (m : Files) : Bytes :=
  (names c m).flatten ++ List.replicate (padCount (hlOf m + (names c m).flatten.length)) 0
def baseOf (c : Codec) (m : Files) : Nat := hlOf m + (textOf c m).length
def recsOf (c : Codec) (m : Files) : List Bytes :=
  (List.range m.length).map fun i => entryBytes ((offsFrom (hlOf m) (names c m)).getD i 0)
    (((offsFrom (baseOf c m) (bodies m)).zip (m.map (·.2.length))).getD i (0, 0))
def imageOf (c : Codec) (m : Files) : Bytes :=
  headOf m ++ (recsOf c m).flatten ++ textOf c m ++ (bodies m).flatten

theorem baseOf_mod32 (c : Codec) (m : Files) : baseOf c m % 32 = 0 := by
  simp only [baseOf, textOf, List.length_append, List.length_replicate, ← Nat.add_assoc]
  exact add_padCount _

theorem serialize_eq {c : Codec} (m : Files) (henc : ∀ kv ∈ m, (c.enc kv.1).isSome) :
    serialize c m = .ok (imageOf c m) := by
  have h := fileLoop_eq (baseOf_mod32 c m) m [] [] rfl
  simp only [baseOf, textOf, hlOf, List.length_nil, Nat.add_zero, List.nil_append] at h
  unfold serialize
  simp only [nameLoop_eq _ m henc, List.nil_append, List.length_nil, Nat.add_zero, h]
  -- the record table is a `flatMap` in the model and `(recsOf c m).flatten` in `imageOf`, which
  -- unfold to the same; the next free address `fileLoop` also returns is not used
  rfl

theorem headOf_length (m : Files) : (headOf m).length = 8 := by simp [headOf]

theorem entryBytes_length (ta : Nat) (fi : Nat × Nat) : (entryBytes ta fi).length = 16 := by
  simp [entryBytes]

theorem recsOf_width (c : Codec) (m : Files) : ∀ r ∈ recsOf c m, r.length = 16 := by
  simp only [recsOf, List.mem_map]
  rintro r ⟨i, _, rfl⟩
  exact entryBytes_length _ _

theorem flatten_length_const {w : Nat} (cs : List Bytes) (h : ∀ c ∈ cs, c.length = w) :
    cs.flatten.length = w * cs.length := by
  rw [List.length_flatten, List.map_eq_replicate_iff.mpr h, List.sum_replicate_nat, Nat.mul_comm]

theorem word_entry {img : Bytes} {off ta fa sz : Nat} (h : At img off (entryBytes ta (fa, sz))) :
    word img (off + 4) 4 = some (ta % 2 ^ 32) ∧ word img (off + 8) 4 = some (fa % 2 ^ 32) ∧
    word img (off + 12) 4 = some (sz % 2 ^ 32) := by
  unfold entryBytes at h
  have h3 := At_suffix h
  have h2 := At_suffix (At_prefix h)
  have h1 := At_suffix (At_prefix (At_prefix h))
  have w1 := word_of_At h1
  have w2 := word_of_At h2
  have w3 := word_of_At h3
  simp only [List.length_append, List.length_cons, List.length_nil, beBytes_length, ofBe_beBytes] at w1 w2 w3
  have e : (256 : Nat) ^ 4 = 2 ^ 32 := by decide
  simp only [e, Nat.mod_mod] at w1 w2 w3
  exact ⟨w1, w2, w3⟩

/-- Record `i` of the built image, read as the specification reads it, and the name and the body
it points to (below 4 GiB the `as u32` casts are exact). -/
theorem imageOf_words (c : Codec) (m : Files) (hsz : (imageOf c m).length < 2 ^ 32) (i : Nat)
    (hi : i < m.length) : ∃ ta fa, fa % 32 = 0 ∧
      word (imageOf c m) (8 + 16 * i + 4) 4 = some ta ∧
      word (imageOf c m) (8 + 16 * i + 8) 4 = some fa ∧
      word (imageOf c m) (8 + 16 * i + 12) 4 = some m[i].2.length ∧
      At (imageOf c m) ta (encOf c m[i] ++ [0]) ∧ At (imageOf c m) fa m[i].2 := by
  obtain ⟨ta, hta⟩ : ∃ ta, (offsFrom (hlOf m) (names c m))[i]? = some ta :=
    ⟨_, List.getElem?_eq_getElem (by rwa [offsFrom_length, names, List.length_map])⟩
  obtain ⟨fa, hfa⟩ : ∃ fa, (offsFrom (baseOf c m) (bodies m))[i]? = some fa :=
    ⟨_, List.getElem?_eq_getElem (by rwa [offsFrom_length, bodies, List.length_map])⟩
  have hrecs : (recsOf c m).length = m.length := by rw [recsOf, List.length_map, List.length_range]
  have hpre : (headOf m ++ (recsOf c m).flatten).length = hlOf m := by
    rw [List.length_append, headOf_length, flatten_length_const _ (recsOf_width c m), hrecs, hlOf,
      Nat.mul_comm]
  have hpre' : (headOf m ++ (recsOf c m).flatten ++ textOf c m).length = baseOf c m := by
    rw [List.length_append, hpre, baseOf]
  have hal : fa % 32 = 0 :=
    offsFrom_mod32 _ _ (baseOf_mod32 c m)
      (by simp only [bodies, List.mem_map]; rintro _ ⟨kv, _, rfl⟩; exact pad32_length _) fa
      (List.mem_of_getElem? hfa)
  have hrec : At (imageOf c m) (8 + 16 * i) (entryBytes ta (fa, m[i].2.length)) := by
    have hfi : ((offsFrom (baseOf c m) (bodies m)).zip (m.map (·.2.length)))[i]? =
        some (fa, m[i].2.length) := by
      rw [List.getElem?_zip_eq_some]; exact ⟨hfa, by simp [hi]⟩
    have hrec : (recsOf c m)[i]? = some (entryBytes ta (fa, m[i].2.length)) := by
      simp only [recsOf, List.getElem?_map, List.getElem?_range hi, Option.map_some,
        List.getD_eq_getElem?_getD, hta, hfi, Option.getD_some]
    have hoff := offsFrom_const (recsOf c m) 8 i (recsOf_width c m) (hrecs ▸ hi)
    rw [← headOf_length m] at hoff
    exact At_left (At_left (At_flatten_offs _ _ i _ _ hoff hrec) _) _
  have hname : At (imageOf c m) ta (encOf c m[i] ++ [0]) := by
    have hnm : (names c m)[i]? = some (encOf c m[i] ++ [0]) := by simp [names, hi]
    rw [← hpre] at hta
    rw [imageOf, textOf, ← List.append_assoc (headOf m ++ (recsOf c m).flatten)]
    exact At_left (At_left (At_flatten_offs _ _ i _ _ hta hnm) _) _
  have hbody : At (imageOf c m) fa m[i].2 := by
    have hbd : (bodies m)[i]? = some (pad32 m[i].2) := by simp [bodies, hi]
    rw [← hpre'] at hfa
    exact At_prefix (At_flatten_offs _ _ i _ _ hfa hbd)
  have ⟨w1, w2, w3⟩ := word_entry hrec
  rw [Nat.mod_eq_of_lt (At_lt hname hsz).1] at w1
  rw [Nat.mod_eq_of_lt (At_lt hbody hsz).1] at w2
  rw [Nat.mod_eq_of_lt (At_lt hbody hsz).2] at w3
  exact ⟨ta, fa, hal, w1, w2, w3, hname, hbody⟩

theorem imageOf_conforms {c : Codec} (m : Files) (henc : ∀ kv ∈ m, (c.enc kv.1).isSome)
    (hlen : m.length ≤ 65535) (hsz : (imageOf c m).length < 2 ^ 32) :
    ConformsPack c.enc (imageOf c m) m ∧ Aligned32 (imageOf c m) m.length := by
  have hhead {off : Nat} {b : Bytes} (h : At (headOf m) off b) : At (imageOf c m) off b :=
    At_left (At_left (At_left h _) _) _
  refine ⟨⟨hlen, ?_, ?_, fun i hi => ?_⟩, fun i hi => ?_⟩
  · have := word_of_At (hhead (At_left (At_left (At_right [] (beBytes 4 MAGIC)) _) _))
    rwa [beBytes_length, ofBe_beBytes] at this
  · have := word_of_At (hhead (At_left (At_right (beBytes 4 MAGIC) _) _))
    rw [beBytes_length, beBytes_length, ofBe_beBytes] at this
    rw [this, Nat.mod_mod_of_dvd _ (by decide), Nat.mod_eq_of_lt (by omega)]
  · have ⟨ta, fa, _, w1, w2, w3, hname, hbody⟩ := imageOf_words c m hsz i hi
    exact entryOk_iff.mpr
      ⟨ta, fa, _, w1, w2, w3, enc_eq_encOf (henc _ (List.getElem_mem hi)), hname, hbody⟩
  · have ⟨ta, fa, hal, _, w2, _⟩ := imageOf_words c m hsz i hi
    rw [w2]; exact hal

end Mila.PackLemmas
