/- Localisation keeps the compressed-suffix decision for paths with a directory part (C12/C14). -/
import MilaModel.Model.LayeredFs
import MilaModel.Spec.LocalizeTable
import MilaModel.Lemmas.Split

namespace Mila.LayeredFs
open Mila.Localize (slash)

theorem suffix_append_last_notin {α : Type} (sfx Y l : List α) (c : α) (hc : c ∉ sfx) :
    sfx <:+ Y ++ c :: l ↔ sfx <:+ l := by
  -- a suffix reaching beyond `l` would contain `c`
  induction Y with
  | nil =>
    rw [List.nil_append, List.suffix_cons_iff]
    exact ⟨fun h => h.resolve_left fun e => hc (e ▸ List.mem_cons_self), Or.inr⟩
  | cons y Y ih =>
    rw [List.cons_append, List.suffix_cons_iff, ih]
    exact ⟨fun h => h.resolve_left fun e => hc (e ▸ by simp), Or.inr⟩

/-- A language marker ends, if not empty, in `/` (3DS language directory) or `_` (file-name prefix). -/
theorem marker_last (g : Spec.Loc.Game) (lang : Spec.Loc.Language) (m : Bytes)
    (h : Spec.Loc.langDir g lang = some m) (c : UInt8) (hc : m.getLast? = some c) : c = slash ∨ c = 0x5F := by
  have table : ∀ g lang, (Spec.Loc.langDir g lang).all
      (fun m => m.getLast?.all fun c => c == slash || c == 0x5F) = true := by
    intro g lang; cases g <;> cases lang <;> rfl
  simpa [h, hc] using table g lang

/-- For a path `dir/…/l` with a non-empty directory part, the localised path
`dir/… ++ "/" ++ marker ++ l` has the compressed suffix iff the unlocalised one has. -/
theorem isCompressed_localized (k : LzKind) (g : Spec.Loc.Game) (lang : Spec.Loc.Language)
    (dir : List Bytes) (l qs : Bytes) (hdir : dir ≠ [])
    (h : Spec.Loc.expected g lang dir l = some qs) :
    isCompressed k qs = isCompressed k (joinWith slash (dir ++ [l])) := by
  unfold Spec.Loc.expected at h
  cases hm : Spec.Loc.langDir g lang with
  | none => simp [hm] at h
  | some m =>
    have hde : dir.isEmpty = false := by cases dir <;> simp_all
    simp only [hm, hde, Bool.false_eq_true, if_false, Option.some.injEq] at h
    subst h
    have hp : joinWith slash (dir ++ [l]) = joinWith slash dir ++ slash :: l :=
      joinWith_append_singleton slash dir l hdir
    rw [hp, Spec.Loc.slash_eq]
    have key : ∀ sfx : Bytes, sfx.contains slash = false → sfx.contains 0x5F = false →
        sfx.isSuffixOf (joinWith slash dir ++ slash :: (m ++ l)) =
        sfx.isSuffixOf (joinWith slash dir ++ slash :: l) := by
      intro sfx h1 h2
      have h1 : slash ∉ sfx := by simpa using h1
      have h2 : (0x5F : UInt8) ∉ sfx := by simpa using h2
      rw [Bool.eq_iff_iff, List.isSuffixOf_iff_suffix, List.isSuffixOf_iff_suffix,
        suffix_append_last_notin sfx _ l slash h1]
      cases hl : m.getLast? with
      | none => simp [List.getLast?_eq_none_iff.mp hl, suffix_append_last_notin sfx _ l slash h1]
      | some c =>
        obtain ⟨ys, rfl⟩ := List.getLast?_eq_some_iff.mp hl
        have hc : c ∉ sfx := by rcases marker_last g lang _ hm c hl with rfl | rfl <;> assumption
        have : joinWith slash dir ++ slash :: (ys ++ [c] ++ l) =
            (joinWith slash dir ++ slash :: ys) ++ c :: l := by simp
        rw [this, suffix_append_last_notin sfx _ l c hc]
    -- none of the suffixes contains `/` or `_`
    cases k with
    | lz10 =>
      simp only [isCompressed, key (bs ['.', 'c', 'm', 's']) rfl rfl, key (bs ['.', 'c', 'm', 'p']) rfl rfl]
    | lz13 => simp only [isCompressed, key (bs ['.', 'l', 'z']) rfl rfl]

end Mila.LayeredFs
