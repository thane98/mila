/- Listings (C13): one layer's `list` / `subdirectories` against the specification's per-layer
entries, and the union loop. -/
import MilaModel.Model.LayeredFs
import MilaModel.Spec.OverlayFs
import MilaModel.Lemmas.FsBridge
import MilaModel.Lemmas.FsGlob
import MilaModel.Lemmas.FsSort

namespace Mila.LayeredFs
open Mila.Spec.Overlay (Walk Kind Loc locOf Pat entriesUnder childDirs showPath)

theorem showPath_eq_render (c : Comps) : showPath c = render c := rfl

theorem collect_ok (f : Layer → Res (List Bytes)) (g : Layer → List Bytes) (ls : List Layer)
    (h : ∀ l ∈ ls, f l = .ok (g l)) : Fs.collect f ls = .ok (ls.flatMap g) := by
  induction ls with
  | nil => rfl
  | cons l rest ih =>
    have h1 := h l (by simp)
    have h2 := ih (fun x hx => h x (by simp [hx]))
    simp [Fs.collect, h1, h2]

theorem filter_walkOf (l : Layer) (P : Comps × Kind → Bool) :
    ((walkOf l).filter P).map (·.1) = (l.filter fun e => P (e.1, kindOf e.2)).map (·.1) := by
  unfold walkOf
  rw [List.filter_map, List.map_map]
  rfl

theorem layer_list_eq (l : Layer) {d : Bytes} {q : Loc} (h : locOf d = some q)
    (pt : Pat) (pat : Option Bytes) (g : Glob) (hc : Compiles pat g)
    (hm : ∀ rel, g.matches rel = pt.matches rel) :
    l.list d pat = .ok ((entriesUnder (walkOf l) q.comps pt).map showPath) := by
  have hcomp : Glob.parse (pat.getD Layer.defaultPattern) = some g := hc
  unfold Layer.list entriesUnder
  simp only [at_dir_iff_stat l h, hcomp]
  cases hs : l.stat d with
  | none => simp
  | some n =>
    cases n with
    | file b => simp
    | dir =>
      simp only [if_true, parsePath_of_locOf h, filter_walkOf, Layer.globUnder, hm, List.map_map]
      rfl

theorem layer_subdirs_eq (l : Layer) {d : Bytes} {q : Loc} (h : locOf d = some q) :
    l.subdirectories d = .ok ((childDirs (walkOf l) q.comps).map showPath) := by
  unfold Layer.subdirectories childDirs
  simp only [at_dir_iff_stat l h]
  cases hs : l.stat d with
  | none => simp
  | some n =>
    cases n with
    | file b => simp
    | dir =>
      simp only [if_true, parsePath_of_locOf h, filter_walkOf, List.map_map, Layer.globUnder,
        List.filter_filter, chain_star_matches]
      congr 2
      refine List.filter_congr fun e _ => ?_
      have hk : decide (kindOf e.2 = Kind.dir) = decide (e.2 = Node.dir) := by cases e.2 <;> simp [kindOf]
      rw [hk, Bool.eq_iff_iff]
      simp only [Bool.and_eq_true, decide_eq_true_eq, beq_iff_eq, List.length_drop]
      constructor
      · rintro ⟨hk, ⟨hp, _⟩, _⟩; exact ⟨⟨hp, by omega⟩, hk⟩
      · rintro ⟨⟨hp, _⟩, hk⟩; exact ⟨hk, ⟨hp, by omega⟩, by omega⟩

/-- The union loop followed by `HashSet` + `sort()` yields the specification's sorted union. -/
theorem sortedUnion_of_layers (ls : List Layer) (f : Layer → Res (List Bytes)) (per : Walk → List (List Bytes))
    (h : ∀ l ∈ ls, f l = .ok ((per (walkOf l)).map showPath)) :
    ∃ r, (match Fs.collect f ls with
        | .ok all => (.ok (Fs.sortSet all) : Res (List Bytes))
        | .err e => .err e
        | .panic => .panic) = .ok r ∧
      Spec.Overlay.IsSortedUnion ((ls.map walkOf).map per) r := by
  rw [collect_ok f (fun l => (per (walkOf l)).map showPath) ls h]
  refine ⟨_, rfl, Fs.sortSet_strict _, ?_⟩
  intro x
  rw [Fs.mem_sortSet]
  simp only [List.mem_flatMap, List.mem_map, List.map_map]
  constructor
  · rintro ⟨l, hl, c, hc, rfl⟩
    exact ⟨per (walkOf l), ⟨l, hl, rfl⟩, c, hc, rfl⟩
  · rintro ⟨es, ⟨l, hl, rfl⟩, c, hc, rfl⟩
    exact ⟨l, hl, c, hc, rfl⟩

theorem mem_entriesUnder {l : Layer} {d c : Comps} {pt : Pat} (h : c ∈ entriesUnder (walkOf l) d pt) :
    ∃ e ∈ l, e.1 = c := by
  unfold entriesUnder at h
  split at h
  · obtain ⟨e, he, rfl⟩ := List.mem_map.mp h
    obtain ⟨e0, he0, rfl⟩ := List.mem_map.mp (List.mem_filter.mp he).1
    exact ⟨e0, he0, rfl⟩
  · cases h

theorem mem_childDirs {l : Layer} {d c : Comps} (h : c ∈ childDirs (walkOf l) d) :
    ∃ e ∈ l, e.1 = c ∧ kindOf e.2 = .dir := by
  unfold childDirs at h
  split at h
  · obtain ⟨e, he, rfl⟩ := List.mem_map.mp h
    obtain ⟨hew, hpred⟩ := List.mem_filter.mp he
    obtain ⟨e0, he0, rfl⟩ := List.mem_map.mp hew
    simp only [Bool.and_eq_true, decide_eq_true_eq] at hpred
    exact ⟨e0, he0, rfl, hpred.2⟩
  · cases h

theorem sortedUnion_mem {fs : Fs} {per : Walk → List (List Bytes)} {r : List Bytes} {x : Bytes}
    (h : Spec.Overlay.IsSortedUnion ((walksOf fs).map per) r) (hx : x ∈ r) :
    ∃ l ∈ fs.layers, ∃ c ∈ per (walkOf l), x = showPath c := by
  obtain ⟨es, hes, c, hc, rfl⟩ := (h.2 x).mp hx
  obtain ⟨w, hw, rfl⟩ := List.mem_map.mp hes
  obtain ⟨l, hl, rfl⟩ := List.mem_map.mp hw
  exact ⟨l, hl, c, hc, rfl⟩

end Mila.LayeredFs
