/-
The vocabulary of the C01/C02 statements: the content an archive denotes (`contentOf`,
`contentPlus`), the quantifier on archives (`ArchWF`, `InDomain`, `imageSize` and its closed-form
ingredients), equality of contents and of archives up to hash order (`ContentEq`, `PermEq`,
`KeysOK`), and what a parsed archive is known to be (`Ctx`, `Parsed`, `RoundTrip`).
Definitions only; the lemmas about them are in the `Ser*` modules.
-/
import MilaModel.Model.BinArchive
import MilaModel.Spec.ArchiveImage

namespace Mila.Ser
open Mila.BinArchive
open Spec.Image

/-- The content of an archive without pending c-strings. -/
def contentOf (a : BinArchive) : Content := ⟨a.data, a.text, a.pointers, a.labels⟩

def cstrSorted (c : Codec) (a : BinArchive) : List (Str × List Nat) := a.cstrings.mergeSort (cstrLe c)

/-- The distinct pending c-strings in pool order. -/
def cstrKeys (c : Codec) (a : BinArchive) : List Str := dedup ((cstrSorted c a).map (·.1))

/-- The c-string pool appended to the data: every pending c-string once, NUL-terminated, in
the order of their encodings, padded with zeros to a multiple of four bytes. -/
def cstrPool (c : Codec) (a : BinArchive) : Bytes := padTo4 ((cstrKeys c a).flatMap (entry c.enc))

/-- One internal pointer per c-string use, into the pool. -/
def cstrPointers (c : Codec) (a : BinArchive) : List (Nat × Nat) :=
  (cstrSorted c a).flatMap (fun p => p.2.map (fun addr =>
    (addr, a.data.length + offsetIn c.enc (cstrKeys c a) p.1)))

/-- `contentOf⁺` (DESIGN §6 C01): the content that the image of an archive with pending c-strings
denotes — the pool has become data and every c-string use an internal pointer into it. -/
def contentPlus (c : Codec) (a : BinArchive) : Content :=
  ⟨a.data ++ cstrPool c a, a.text, a.pointers ++ cstrPointers c a, a.labels⟩

/-- Two descriptions of the same content: same size, same raw bytes outside annotated cells, same
strings / pointers as finite maps, same label list at every address (empty buckets are not
content). -/
structure ContentEq (K K' : Content) : Prop where
  size : K.data.length = K'.data.length
  bytes : ∀ i, ¬ K.covered i → K.data[i]? = K'.data[i]?
  strings : K.strings.Perm K'.strings
  pointers : K.pointers.Perm K'.pointers
  labels : ∀ x, K.labelsAt x = K'.labelsAt x

/-- Addresses of the annotated cells of an archive (pointers, pending c-strings, strings). -/
def archCells (a : BinArchive) : List Nat :=
  a.pointers.map (·.1) ++ a.cstrings.flatMap (·.2) ++ a.text.map (·.1)

/-- The quantifier of C01 on archives: at most one pointer / string / c-string per 4-byte cell
(cells pairwise disjoint, inside the data), pointer targets and label addresses `≤ size`; the data
length is arbitrary. (`labelKeys` is the `HashMap` invariant of `labels`.) -/
structure ArchWF (a : BinArchive) : Prop where
  inside : ∀ x ∈ archCells a, x + 4 ≤ a.data.length
  disjoint : (archCells a).Pairwise (fun x y => x + 4 ≤ y ∨ y + 4 ≤ x)
  targets : ∀ p ∈ a.pointers, p.2 ≤ a.data.length
  labelKeys : (a.labels.map (·.1)).Nodup
  labelAddrs : ∀ p ∈ a.labels, p.1 ≤ a.data.length

/-- Every string of the archive lies in the codec's faithful domain `D`. -/
structure InDomain (D : Str → Prop) (a : BinArchive) : Prop where
  text : ∀ p ∈ a.text, D p.2
  labels : ∀ p ∈ a.labels, ∀ n ∈ p.2, D n
  cstrings : ∀ p ∈ a.cstrings, D p.1

/-- The part of the quantifier of C01/C02 that `serialize` needs in order to succeed: annotated
cells inside the data, every string encodable, image smaller than 4 GiB. -/
structure SerDomain (c : Codec) (a : BinArchive) : Prop where
  ptrIn : ∀ p ∈ a.pointers, p.1 + 4 ≤ a.data.length
  textIn : ∀ p ∈ a.text, p.1 + 4 ≤ a.data.length
  cstrIn : ∀ p ∈ a.cstrings, ∀ x ∈ p.2, x + 4 ≤ a.data.length
  encText : ∀ p ∈ a.text, ∃ b, c.enc p.2 = some b
  encLabels : ∀ p ∈ a.labels, ∀ n ∈ p.2, ∃ b, c.enc n = some b
  encCStr : ∀ p ∈ a.cstrings, ∃ b, c.enc p.1 = some b
  small : a.data.length + (cstrPool c a).length < 2 ^ 32

/-- Size of the image the format prescribes for the archive. -/
def imageSize (c : Codec) (a : BinArchive) : Nat := (canonical c.enc a.endian (contentPlus c a)).length

/-- Bytes a string occupies in a text pool: its encoding and the terminating NUL. -/
def encLen (c : Codec) (s : Str) : Nat := (entry c.enc s).length

/-- Encoded size of all label names and strings of the archive (with repetitions). -/
def textBytes (c : Codec) (a : BinArchive) : Nat :=
  ((a.labels.flatMap (·.2)).map (encLen c)).sum + ((a.text.map (·.2)).map (encLen c)).sum

/-- Encoded size of the pending c-strings. -/
def poolBytes (c : Codec) (a : BinArchive) : Nat := ((a.cstrings.map (·.1)).map (encLen c)).sum

/-- The same archive up to the iteration order of its hash maps. -/
structure PermEq (a a' : BinArchive) : Prop where
  data : a.data = a'.data
  endian : a.endian = a'.endian
  text : a.text.Perm a'.text
  pointers : a.pointers.Perm a'.pointers
  labels : a.labels.Perm a'.labels
  cstrings : a.cstrings.Perm a'.cstrings

/-- What `serialize_perm` needs from the quantifier: every hash map has distinct keys, no cell
carries both a pointer and a pending c-string (or two c-strings), and the codec separates the
pending c-strings (they are distinct `HashMap` keys; under `Codec.Faithful` encodings of distinct
strings differ). -/
structure KeysOK (c : Codec) (a : BinArchive) : Prop where
  text : (a.text.map (·.1)).Nodup
  labels : (a.labels.map (·.1)).Nodup
  sources : (a.pointers.map (·.1) ++ a.cstrings.flatMap (·.2)).Nodup
  cstrKeys : ∀ x ∈ a.cstrings, ∀ y ∈ a.cstrings, cstrKey c x = cstrKey c y → x = y

/-- Everything `parse_conforming` assumes. -/
structure Ctx (c : Codec) (D : Str → Prop) (e : Endian) (f : Bytes) (K : Content) : Prop where
  conf : Conforms c.enc e f K
  wf : K.WF
  faithful : c.Faithful D
  domS : ∀ p ∈ K.strings, D p.2
  domL : ∀ p ∈ K.labels, ∀ n ∈ p.2, D n

/-- The parsed archive has exactly the content `K` (its data block is the image's). -/
structure Parsed (e : Endian) (f : Bytes) (K : Content) (b : BinArchive) : Prop where
  data : b.data = slice f 0x20 K.data.length
  endian : b.endian = e
  cstrings : b.cstrings = []
  text : b.text.Perm K.strings
  pointers : b.pointers.Perm K.pointers
  labelKeys : (b.labels.map (·.1)).Nodup
  labels : ∀ x, (UMap.get b.labels x).getD [] = K.labelsAt x
  nonempty : ∀ p ∈ b.labels, p.2 ≠ []

/-- Hypotheses shared by the observable-level statements: `b` is the archive parsed from the image
`f` of `a`. -/
structure RoundTrip (c : Codec) (D : Str → Prop) (a : BinArchive) (f : Bytes) (b : BinArchive) : Prop where
  wf : ArchWF a
  faithful : c.Faithful D
  dom : InDomain D a
  conf : Conforms c.enc a.endian f (contentPlus c a)
  parsed : Parsed a.endian f (contentPlus c a) b

end Mila.Ser
