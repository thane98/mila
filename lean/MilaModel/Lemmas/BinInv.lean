/-
The history invariant of C03: distinct keys in every map (`KeysNodup`, the well-formedness under
which `HashMap::from_iter` / `UMap.collect` is injective) and containment of every annotation in
the data (`Bounded`).  Containment and the alignment invariant of C03 are two instances of one
statement about annotation addresses (`Addrs`), which is what the calls are shown to preserve: the
writes and deletes directly, the relocations because their result is the specification's image.
-/
import MilaModel.Lemmas.BinReloc
import MilaModel.Lemmas.BinCell

namespace Mila
open BinArchive Spec.Reloc UMap

/-- Well-formedness under which `collect` is injective: every map has distinct keys (what a Rust
`HashMap` guarantees by construction). -/
def KeysNodup (a : BinArchive) : Prop :=
  (keys a.text).Nodup ∧ (keys a.pointers).Nodup ∧ (keys a.labels).Nodup ∧ (keys a.cstrings).Nodup

/-- Containment: string cells, pointer cells and pending c-string uses start inside the data,
labels at most at the end address. -/
def Bounded (a : BinArchive) : Prop :=
  (∀ k ∈ keys a.text, k < a.size) ∧ (∀ k ∈ keys a.pointers, k < a.size)
  ∧ (∀ k ∈ keys a.labels, k ≤ a.size) ∧ (∀ p ∈ a.cstrings, ∀ x ∈ p.2, x < a.size)

def Inv (a : BinArchive) : Prop := KeysNodup a ∧ Bounded a

theorem inv_new (e : Endian) : Inv (BinArchive.new e) := by
  simp [Inv, KeysNodup, Bounded, BinArchive.new, keys]

/-- Distinct keys, `Q` of every cell address (string cells, pointer cells, c-string uses) and `Ql`
of every label address.  `Inv` is the instance "inside the data". -/
def Addrs (Q Ql : Nat → Prop) (a : BinArchive) : Prop :=
  KeysNodup a ∧ Content.All Q Ql ⟨a.data, a.text, a.pointers, a.labels, a.cstrings⟩

variable {Q Ql : Nat → Prop} {a a' : BinArchive}

theorem inv_iff_addrs : Inv a ↔ Addrs (· < a.size) (· ≤ a.size) a := by
  simp only [Inv, Bounded, Addrs, Content.All, forall_keys]

/-- Takes the pair that the `*_addrs` lemmas return for a call: containment in the size `s` the call
leads to, and that `s` is the size of the result. -/
theorem inv_of_addrs {s : Nat} (h : Addrs (· < s) (· ≤ s) a' ∧ a'.size = s) : Inv a' := by
  obtain ⟨h, rfl⟩ := h; exact inv_iff_addrs.mpr h

theorem Addrs.mono {Q' Ql' : Nat → Prop} (h : Addrs Q Ql a) (hQ : ∀ x, Q x → Q' x)
    (hl : ∀ x, Ql x → Ql' x) : Addrs Q' Ql' a :=
  ⟨h.1, fun p hp => hQ _ (h.2.1 p hp), fun p hp => hQ _ (h.2.2.1 p hp),
    fun p hp => hl _ (h.2.2.2.1 p hp), fun p hp x hx => hQ x (h.2.2.2.2 p hp x hx)⟩

theorem writeTy_addrs {t : Ty} {x : Nat} {v : Int} (h : a.writeTy t x v = .ok a') (hq : Addrs Q Ql a) :
    Addrs Q Ql a' ∧ a'.size = a.size := by
  obtain ⟨hr, rfl⟩ := Res.guard_eq_ok.mp (writeUInt_eq .. ▸ writeTy_eq_writeUInt a t x v ▸ h)
  exact ⟨hq, length_patch _ _ _ (by rw [enc_length]; exact hr.2)⟩

theorem writeBytes_addrs {x : Nat} {v : Bytes} (h : a.writeBytes x v = .ok a') (hq : Addrs Q Ql a) :
    Addrs Q Ql a' ∧ a'.size = a.size := by
  obtain ⟨hr, rfl⟩ := Res.guard_eq_ok.mp (writeBytes_eq a x v ▸ h)
  exact ⟨hq, length_patch _ _ _ hr.2⟩

/-! ### annotation writes and deletes: one map changes, by an insert or a filter -/

theorem writeString_addrs {x : Nat} {v : Option Str} (h : a.writeString x v = .ok a')
    (hq : Addrs Q Ql a) (hx : ∀ w, v = some w → x < a.size → Q x) : Addrs Q Ql a' ∧ a'.size = a.size := by
  obtain ⟨hr, rfl⟩ := Res.guard_eq_ok.mp (writeString_eq a x v ▸ h)
  obtain ⟨⟨n1, n⟩, q1, q⟩ := hq
  cases v with
  | none => exact ⟨⟨⟨keys_remove_nodup _ _ n1, n⟩, fun p hp => q1 p (List.mem_filter.mp hp).1, q⟩, rfl⟩
  | some v => exact ⟨⟨⟨keys_insert_nodup _ _ _ n1, n⟩, forall_mem_insert (hx v rfl hr.1) q1, q⟩, rfl⟩

theorem writePointer_addrs {x : Nat} {v : Option Nat} (h : a.writePointer x v = .ok a')
    (hq : Addrs Q Ql a) (hx : ∀ w, v = some w → x < a.size → Q x) : Addrs Q Ql a' ∧ a'.size = a.size := by
  obtain ⟨hr, rfl⟩ := Res.guard_eq_ok.mp (writePointer_eq a x v ▸ h)
  obtain ⟨⟨n1, n2, n⟩, q1, q2, q⟩ := hq
  cases v with
  | none =>
    exact ⟨⟨⟨n1, keys_remove_nodup _ _ n2, n⟩, q1, fun p hp => q2 p (List.mem_filter.mp hp).1, q⟩, rfl⟩
  | some v => exact ⟨⟨⟨n1, keys_insert_nodup _ _ _ n2, n⟩, q1, forall_mem_insert (hx v rfl hr.1) q2, q⟩, rfl⟩

theorem writeCString_addrs {x : Nat} {v : Str} (h : a.writeCString x v = .ok a')
    (hq : Addrs Q Ql a) (hx : x < a.size → Q x) : Addrs Q Ql a' ∧ a'.size = a.size := by
  obtain ⟨hr, rfl⟩ := Res.guard_eq_ok.mp (writeCString_eq a x v ▸ h)
  obtain ⟨⟨n1, n2, n3, n4⟩, q1, q2, q3, q4⟩ := hq
  refine ⟨⟨⟨n1, n2, n3, keys_insert_nodup _ _ _ n4⟩, q1, q2, q3, fun p hp y hy => ?_⟩, rfl⟩
  rcases mem_insert _ _ _ _ hp with rfl | hp
  · -- the new bucket is the old one (if any) followed by `x`
    rcases List.mem_append.mp hy with hy | hy
    · cases hg : UMap.get a.cstrings v with
      | none => simp [hg] at hy
      | some b => exact q4 _ (mem_of_get hg) y (by simpa [hg] using hy)
    · exact List.mem_singleton.mp hy ▸ hx hr.1
  · exact q4 p hp y hy

private theorem labels_insert_addrs {x : Nat} (b : List Str) (hq : Addrs Q Ql a) (hx : Ql x) :
    Addrs Q Ql { a with labels := a.labels.insert x b } := by
  obtain ⟨⟨n1, n2, n3, n4⟩, q1, q2, q3, q4⟩ := hq
  exact ⟨⟨n1, n2, keys_insert_nodup _ _ _ n3, n4⟩, q1, q2, forall_mem_insert hx q3, q4⟩

theorem writeLabels_addrs {x : Nat} {v : List Str} (h : a.writeLabels x v = .ok a')
    (hq : Addrs Q Ql a) (hx : x ≤ a.size → Ql x) : Addrs Q Ql a' ∧ a'.size = a.size := by
  obtain ⟨hr, rfl⟩ := Res.guard_eq_ok.mp (writeLabels_eq a x v ▸ h)
  exact ⟨labels_insert_addrs _ hq (hx hr), rfl⟩

theorem writeLabel_addrs {x : Nat} {v : Str} (h : a.writeLabel x v = .ok a')
    (hq : Addrs Q Ql a) (hx : x ≤ a.size → Ql x) : Addrs Q Ql a' ∧ a'.size = a.size := by
  obtain ⟨hr, rfl⟩ := Res.guard_eq_ok.mp (writeLabel_eq a x v ▸ h)
  exact ⟨labels_insert_addrs _ hq (hx hr), rfl⟩

theorem deleteLabels_addrs {x : Nat} (h : a.deleteLabels x = .ok a') (hq : Addrs Q Ql a) :
    Addrs Q Ql a' ∧ a'.size = a.size := by
  obtain ⟨_, rfl⟩ := Res.guard_eq_ok.mp (deleteLabels_eq a x ▸ h)
  obtain ⟨⟨n1, n2, n3, n4⟩, q1, q2, q3, q4⟩ := hq
  exact ⟨⟨⟨n1, n2, keys_remove_nodup _ _ n3, n4⟩, q1, q2, fun p hp => q3 p (List.mem_filter.mp hp).1, q4⟩,
    rfl⟩

/-- `delete_label` rewrites the bucket of an address that already carries labels. -/
theorem deleteLabel_addrs {x i : Nat} (h : a.deleteLabel x i = .ok a') (hq : Addrs Q Ql a) :
    Addrs Q Ql a' ∧ a'.size = a.size := by
  rw [deleteLabel_eq] at h
  split at h
  · split at h
    · rename_i b hg
      obtain ⟨_, rfl⟩ := Res.guard_eq_ok.mp h
      exact ⟨labels_insert_addrs _ hq (hq.2.2.2.1 _ (mem_of_get hg)), rfl⟩
    · cases h; exact ⟨hq, rfl⟩
  · cases h

/-! ### relocations: the content becomes the specification's image, and the addresses go with it -/

variable {Q' Ql' : Nat → Prop} {addr n cut : Nat} {ge : Bool}

/-- Whenever `allocate` succeeds, the request was acceptable and the result is the specification's
image, with distinct keys again. -/
theorem allocate_content (h : KeysNodup a) (hok : a.allocate addr n ge = .ok a') :
    allocAccepted a.size addr n
      ∧ (⟨a'.data, a'.text, a'.pointers, a'.labels, a'.cstrings⟩ : Content)
        = allocated addr n ge ⟨a.data, a.text, a.pointers, a.labels, a.cstrings⟩
      ∧ a'.endian = a.endian ∧ KeysNodup a' := by
  obtain ⟨et, nt⟩ := adjustText_add a.text addr n h.1
  obtain ⟨ep, np⟩ := adjustPointers_add a.pointers addr n ge h.2.1
  obtain ⟨el, nl⟩ := adjustLabels_add a.labels addr n ge h.2.2.1
  obtain ⟨ec, nc⟩ := adjustCStrings_add a.cstrings addr n h.2.2.2
  rw [allocate_eq] at hok
  split at hok
  · obtain ⟨hal, rfl⟩ := Res.guard_eq_ok.mp hok
    exact ⟨⟨‹_›, hal⟩, by simp only [allocated, et, ep, el, ec], rfl, nt, np, nl, nc⟩
  · cases hok

/-- The same for `deallocate`, for arbitrary naturals. -/
theorem deallocate_content (h : KeysNodup a) (hok : a.deallocate addr n ge = .ok a') :
    deallocAccepted a.size addr n
      ∧ (⟨a'.data, a'.text, a'.pointers, a'.labels, a'.cstrings⟩ : Content)
        = deallocated addr n ⟨a.data, a.text, a.pointers, a.labels, a.cstrings⟩
      ∧ a'.endian = a.endian ∧ KeysNodup a' := by
  obtain ⟨et, nt⟩ := dealloc_text a.text addr n h.1
  obtain ⟨ep, np⟩ := dealloc_pointers a.pointers addr n ge h.2.1
  obtain ⟨el, nl⟩ := dealloc_labels a.labels addr n ge h.2.2.1
  obtain ⟨ec, nc⟩ := dealloc_cstrings a.cstrings addr n h.2.2.2
  rw [deallocate_eq_checked] at hok
  split at hok
  · rename_i hr
    obtain ⟨hal, rfl⟩ := Res.guard_eq_ok.mp hok
    exact ⟨⟨hr.1.1, hr.1.2, hal⟩, by simp only [deallocated, et, ep, el, ec], rfl, nt, np, nl, nc⟩
  · cases hok

theorem truncate_content (a : BinArchive) (cut : Nat) (h : KeysNodup a) :
    (⟨(a.truncate cut).data, (a.truncate cut).text, (a.truncate cut).pointers, (a.truncate cut).labels,
        (a.truncate cut).cstrings⟩ : Content)
        = truncated cut ⟨a.data, a.text, a.pointers, a.labels, a.cstrings⟩
      ∧ (a.truncate cut).endian = a.endian ∧ KeysNodup (a.truncate cut) := by
  obtain ⟨ht, hp, hl, hc⟩ := h
  obtain ⟨ec, nc⟩ := filterCStrings_eq a.cstrings (fun x => x < cut) hc
  rw [ec] at nc
  unfold BinArchive.truncate truncated
  by_cases hcut : cut ≥ a.data.length
  · simp only [hcut, if_true]
    exact ⟨trivial, trivial, ht, hp, hl, hc⟩
  · simp only [hcut, if_false, ec]
    exact ⟨trivial, trivial, keys_filter_nodup _ _ ht, keys_filter_nodup _ _ hp, keys_filter_nodup _ _ hl, nc⟩

theorem allocate_addrs (hq : Addrs Q Ql a) (hok : a.allocate addr n ge = .ok a')
    (hQ : ∀ x, Q x → Q' (shiftAt addr n x)) (hL : ∀ x, Ql x → Ql' (shiftAfter addr n ge x)) :
    allocAccepted a.size addr n ∧ Addrs Q' Ql' a' ∧ a'.size = a.size + n := by
  obtain ⟨hacc, hc, _, hk⟩ := allocate_content hq.1 hok
  exact ⟨hacc, ⟨hk, hc ▸ all_allocated hq.2 hQ hL⟩,
    (congrArg (·.data.length) hc).trans (length_allocated hacc.1)⟩

theorem deallocate_addrs (hq : Addrs Q Ql a) (hok : a.deallocate addr n ge = .ok a')
    (hQ : ∀ x, inside addr n x = false → Q x → Q' (pull addr n x))
    (hL : ∀ x, inside addr n x = false → Ql x → Ql' (pull addr n x)) :
    deallocAccepted a.size addr n ∧ Addrs Q' Ql' a' ∧ a'.size = a.size - n := by
  obtain ⟨hacc, hc, _, hk⟩ := deallocate_content hq.1 hok
  exact ⟨hacc, ⟨hk, hc ▸ all_deallocated hq.2 hQ hL⟩,
    (congrArg (·.data.length) hc).trans (length_deallocated hacc.2.1)⟩

theorem truncate_addrs (hq : Addrs Q Ql a) (hcut : cut < a.size)
    (hQ : ∀ x, x < cut → Q x → Q' x) (hL : ∀ x, x < cut → Ql x → Ql' x) :
    Addrs Q' Ql' (a.truncate cut) ∧ (a.truncate cut).size = cut := by
  obtain ⟨hc, _, hk⟩ := truncate_content a cut hq.1
  exact ⟨⟨hk, hc ▸ all_truncated hq.2 hcut hQ hL⟩,
    (congrArg (·.data.length) hc).trans (length_truncated hcut)⟩

end Mila
