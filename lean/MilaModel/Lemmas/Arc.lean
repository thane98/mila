/-
Lemmas for C16 (3DS arc): the bin-archive primitives used by `arc.rs` in closed form, expressed
over the *content* of an archive (data bytes, string cells, labels), and the loops of
`Arc.fromArchive`.
-/
import MilaModel.Model.Arc
import MilaModel.Spec.ArcImage
import MilaModel.Lemmas.Bytes
import MilaModel.Lemmas.UMap
import MilaModel.Lemmas.Streams
import MilaModel.Lemmas.BinCell
import MilaModel.Lemmas.BinParse

namespace Mila.ArcLemmas
open Mila Mila.Arc Mila.BinArchive
open Mila.Spec.Arc (Content u32le LowestLabel NoLabel RecordAt BodyAt)

/-- The content of a bin archive that arc extraction looks at. -/
def contentOf (a : BinArchive) : Content :=
  ⟨a.data, a.text, a.labels.flatMap (fun p => p.2.map (fun l => (p.1, l)))⟩

/-- The 32-bit word the data holds at `pos`, in the archive's endianness. -/
def dataWord (a : BinArchive) (pos : Nat) : Nat := a.endian.dec (slice a.data pos 4)

theorem dataWord_lt (a : BinArchive) (pos : Nat) : dataWord a pos < 2 ^ 32 :=
  dec_lt_pow (k := 4) _ (List.length_take_le ..)

theorem u32le_eq_some {a : BinArchive} (hle : a.endian = .little) {pos v : Nat} :
    u32le a.data pos = some v ↔ pos + 4 ≤ a.data.length ∧ dataWord a pos = v := by
  unfold u32le dataWord slice
  rw [hle]
  split <;> simp [Endian.dec, *]

theorem u32le_lt {a : BinArchive} (hle : a.endian = .little) {pos v : Nat}
    (h : u32le a.data pos = some v) : v < 2 ^ 32 :=
  ((u32le_eq_some hle).mp h).2 ▸ dataWord_lt a pos

theorem inRange_iff (a : BinArchive) (addr : Nat) {w : Nat} (hw : 0 < w) :
    Spec.Cell.InRange a.size addr w ↔ addr + w ≤ a.data.length :=
  ⟨fun h => h.2, fun h => ⟨Nat.lt_of_lt_of_le (Nat.lt_add_of_pos_right hw) h, h⟩⟩

theorem readU32_eq_len (a : BinArchive) (addr : Nat) :
    a.readU32 addr =
      if addr + 4 ≤ a.data.length then .ok (dataWord a addr) else .err .OutOfBounds := by
  simp only [BinArchive.readU32, readUInt_eq, inRange_iff a addr (by decide : 0 < 4), dataWord,
    dec_eq_valueOf]

theorem readString_eq_len (a : BinArchive) (addr : Nat) :
    a.readString addr =
      if addr + 4 ≤ a.data.length then .ok (a.text.get addr) else .err .OutOfBounds := by
  simp only [readString_eq, inRange_iff a addr (by decide : 0 < 4)]

theorem readerU32_eq (a : BinArchive) (r : Reader) :
    Reader.readU32 a r =
      if r.pos + 4 ≤ a.data.length then .ok (dataWord a r.pos, ⟨r.pos + 4⟩)
      else .err .OutOfBounds := by
  rw [Reader.readU32, Reader.step_eq_map, readU32_eq_len, Res.map_guard]

theorem readerString_eq (a : BinArchive) (r : Reader) :
    Reader.readString a r =
      if r.pos + 4 ≤ a.data.length then .ok (a.text.get r.pos, ⟨r.pos + 4⟩)
      else .err .OutOfBounds := by
  rw [Reader.readString, Reader.step_eq_map, readString_eq_len, Res.map_guard]

theorem readerReadBytes_eq (a : BinArchive) (s n : Nat) :
    readerReadBytes a ⟨s⟩ n =
      if n = 0 then .ok ([], ⟨s⟩)
      else if s + n ≤ a.data.length ∧ s + n < 2 ^ 64 then .ok (slice a.data s n, ⟨s + n⟩)
      else .err .OutOfBounds := by
  unfold readerReadBytes
  by_cases h0 : n = 0
  · rw [if_pos h0, if_pos h0]
  · simp only [if_neg h0, readBytes_eq_checked, inRange_iff a s (Nat.pos_of_ne_zero h0)]
    by_cases h : s + n ≤ a.data.length ∧ s + n < 2 ^ 64
    · simp only [if_pos h]
    · simp only [if_neg h]

theorem readBytes_zero (a : BinArchive) (s : Nat) : readerReadBytes a ⟨s⟩ 0 = .ok ([], ⟨s⟩) := rfl

/-- One record of the table, in closed form: the padding is at most 0x60 and the offset a 32-bit
word, so the `usize` addition cannot overflow and the profile plays no role. -/
theorem readRecord_eq (p : Profile) (a : BinArchive) {pad : Nat} (hpad : pad ≤ 0x60) (r : Reader) :
    readRecord p a pad r =
      if r.pos + 4 ≤ a.data.length then
        match a.text.get r.pos with
        | none => .err .MissingName
        | some name =>
          if r.pos + 16 ≤ a.data.length then
            .ok (⟨name, dataWord a (r.pos + 4), dataWord a (r.pos + 8), dataWord a (r.pos + 12) + pad⟩,
              ⟨r.pos + 16⟩)
          else .err .OutOfBounds
      else .err .OutOfBounds := by
  have hadd : add64 p (dataWord a (r.pos + 12)) pad = .ok (dataWord a (r.pos + 12) + pad) := by
    have := dataWord_lt a (r.pos + 12)
    unfold add64 addN
    rw [if_pos (by omega)]
  unfold readRecord
  rw [readerString_eq]
  by_cases h1 : r.pos + 4 ≤ a.data.length
  · cases hn : a.text.get r.pos with
    | none => simp only [h1, if_true]
    | some name =>
      simp only [h1, if_true, readerU32_eq, Nat.add_assoc, Nat.reduceAdd]
      by_cases h4 : r.pos + 16 ≤ a.data.length
      · simp only [h4, (by omega : r.pos + 8 ≤ a.data.length),
          (by omega : r.pos + 12 ≤ a.data.length), if_true, hadd]
      · by_cases h2 : r.pos + 8 ≤ a.data.length <;> by_cases h3 : r.pos + 12 ≤ a.data.length <;>
          simp only [h2, h3, h4, if_true, if_false]
  · simp only [h1, if_false]

/-- The `(address, label)` pairs of a label map (`contentOf`, `Compose.arcOf`). -/
theorem mem_labels {m : UMap Nat (List Str)} {x : Nat} {l : Str} :
    (x, l) ∈ m.flatMap (fun p => p.2.map (fun l => (p.1, l))) ↔
      ∃ bucket, (x, bucket) ∈ m ∧ l ∈ bucket := by
  simp only [List.mem_flatMap, List.mem_map]
  constructor
  · rintro ⟨p, hp, l', hl', he⟩; cases he; exact ⟨p.2, hp, hl'⟩
  · rintro ⟨b, hb, hl⟩; exact ⟨(x, b), hb, l, hl, rfl⟩

/-- With distinct addresses, the labels paired with `x` are those of the bucket at `x`. -/
theorem mem_flat_labels (m : UMap Nat (List Str)) (nd : (m.map (·.1)).Nodup) (x : Nat) (l : Str) :
    (x, l) ∈ m.flatMap (fun p => p.2.map (fun n => (p.1, n))) ↔ l ∈ (UMap.get m x).getD [] := by
  rw [mem_labels]
  constructor
  · rintro ⟨b, hb, hl⟩
    rw [(UMap.mem_iff_get nd (x, b)).mp hb]
    exact hl
  · intro h
    cases hg : UMap.get m x with
    | none => rw [hg] at h; simp at h
    | some bucket =>
      rw [hg] at h
      exact ⟨bucket, UMap.mem_of_get hg, h⟩

theorem mem_candidates (a : BinArchive) (l : Str) (x : Nat) :
    x ∈ (a.labels.filter (fun p => p.2.contains l)).map (·.1) ↔ (x, l) ∈ (contentOf a).labels := by
  rw [contentOf, mem_labels]
  simp only [List.mem_map, List.mem_filter, List.contains_iff_mem]
  constructor
  · rintro ⟨p, ⟨hp, hl⟩, rfl⟩; exact ⟨p.2, hp, hl⟩
  · rintro ⟨b, hb, hl⟩; exact ⟨(x, b), ⟨hb, hl⟩, rfl⟩

theorem findLabel_eq_some (a : BinArchive) (l : Str) (x : Nat) :
    a.findLabelAddress l = some x ↔ LowestLabel (contentOf a) l x := by
  unfold findLabelAddress LowestLabel
  rw [List.min?_eq_some_iff, mem_candidates]
  exact and_congr_right fun _ =>
    ⟨fun h q hq e => h q.1 ((mem_candidates a l q.1).mpr (e ▸ hq)),
     fun h y hy => h (y, l) ((mem_candidates a l y).mp hy) rfl⟩

theorem findLabel_eq_none (a : BinArchive) (l : Str) :
    a.findLabelAddress l = none ↔ NoLabel (contentOf a) l := by
  unfold findLabelAddress NoLabel
  rw [List.min?_eq_none_iff, List.eq_nil_iff_forall_not_mem]
  exact ⟨fun h q hq e => h q.1 ((mem_candidates a l q.1).mpr (e ▸ hq)),
    fun h y hy => h (y, l) ((mem_candidates a l y).mp hy) rfl⟩

theorem findLabel_exists (a : BinArchive) (l : Str) (x : Nat) (h : (x, l) ∈ (contentOf a).labels) :
    ∃ y, a.findLabelAddress l = some y ∧ LowestLabel (contentOf a) l y := by
  cases hf : a.findLabelAddress l with
  | none => exact absurd rfl ((findLabel_eq_none a l).mp hf (x, l) h)
  | some y => exact ⟨y, rfl, (findLabel_eq_some a l y).mp hf⟩

/-- A record as the specification describes it: name, size, offset. -/
abbrev RecD := Str × Nat × Nat

/-- The entries the metadata loop collects for the records `rs` starting at table index `k`. -/
def entriesR (a : BinArchive) (pad ia : Nat) : Nat → List RecD → List ArcEntry
  | _, [] => []
  | k, r :: rs =>
    ⟨r.1, dataWord a (ia + 16 * k + 4), r.2.1, r.2.2 + pad⟩ :: entriesR a pad ia (k + 1) rs

theorem forall_idx_cons {α : Type} {P : Nat → α → Prop} {k : Nat} {x : α} {xs : List α}
    (h : ∀ i, (hi : i < (x :: xs).length) → P (k + i) (x :: xs)[i]) :
    P k x ∧ ∀ i, (hi : i < xs.length) → P (k + 1 + i) xs[i] :=
  ⟨h 0 (Nat.zero_lt_succ _),
   fun i hi => (show k + (i + 1) = k + 1 + i by omega) ▸ h (i + 1) (Nat.succ_lt_succ hi)⟩

theorem readRecord_ok (p : Profile) (a : BinArchive) (hle : a.endian = .little)
    (hnd : (a.text.map (·.1)).Nodup) (pad : Nat) (hpad : pad ≤ 0x60) (ia k : Nat)
    (name : Str) (size off : Nat) (h : RecordAt (contentOf a) ia k name size off) :
    readRecord p a pad ⟨ia + 16 * k⟩ =
      .ok (⟨name, dataWord a (ia + 16 * k + 4), size, off + pad⟩, ⟨ia + 16 * (k + 1)⟩) := by
  obtain ⟨hname, _, hsize, hoff⟩ := h
  obtain ⟨_, e8⟩ := (u32le_eq_some hle).mp hsize
  obtain ⟨h16, e12⟩ := (u32le_eq_some hle).mp hoff
  rw [readRecord_eq p a hpad, show ia + 16 * (k + 1) = ia + 16 * k + 16 by omega]
  simp only [(by omega : ia + 16 * k + 4 ≤ a.data.length), (by omega : ia + 16 * k + 16 ≤ a.data.length),
    if_true, (UMap.mem_iff_get hnd (_, _)).mp hname, e8, e12]

/-- Every record of `rs` is readable at consecutive table slots from index `k`. -/
def RecsAt (a : BinArchive) (ia : Nat) : Nat → List RecD → Prop
  | _, [] => True
  | k, r :: rs => RecordAt (contentOf a) ia k r.1 r.2.1 r.2.2 ∧ RecsAt a ia (k + 1) rs

theorem recsAt_of_forall (a : BinArchive) (ia : Nat) : ∀ (rs : List RecD) (k : Nat),
    (∀ i, (hi : i < rs.length) → RecordAt (contentOf a) ia (k + i) rs[i].1 rs[i].2.1 rs[i].2.2) →
    RecsAt a ia k rs := by
  intro rs
  induction rs with
  | nil => intro k _; trivial
  | cons r rs ih =>
    intro k h
    obtain ⟨h0, hrest⟩ := forall_idx_cons
      (P := fun i (r : RecD) => RecordAt (contentOf a) ia i r.1 r.2.1 r.2.2) h
    exact ⟨h0, ih (k + 1) hrest⟩

/-- The metadata loop over a readable prefix `rs` of the table, followed by `n` more records. -/
theorem readRecords_prefix (p : Profile) (a : BinArchive) (hle : a.endian = .little)
    (hnd : (a.text.map (·.1)).Nodup) (pad : Nat) (hpad : pad ≤ 0x60) (ia : Nat) :
    ∀ (rs : List RecD) (k : Nat), RecsAt a ia k rs →
      ∀ n, readRecords p a pad (rs.length + n) ⟨ia + 16 * k⟩ =
        match readRecords p a pad n ⟨ia + 16 * (k + rs.length)⟩ with
        | .ok (es, r) => .ok (entriesR a pad ia k rs ++ es, r)
        | .err e => .err e
        | .panic => .panic := by
  intro rs
  induction rs with
  | nil =>
    intro k _ n
    simp only [List.length_nil, Nat.zero_add, Nat.add_zero, entriesR, List.nil_append]
    cases readRecords p a pad n ⟨ia + 16 * k⟩ <;> rfl
  | cons r rs ih =>
    intro k ⟨h0, hrest⟩ n
    rw [List.length_cons, Nat.add_right_comm]
    simp only [readRecords, readRecord_ok p a hle hnd pad hpad ia k r.1 r.2.1 r.2.2 h0,
      ih (k + 1) hrest n, Nat.add_assoc, Nat.add_comm 1]
    cases readRecords p a pad n ⟨ia + 16 * (k + (rs.length + 1))⟩ <;> rfl

/-- The declared range of record `r` lies inside the data (an empty range is anywhere). -/
def RangeInside (a : BinArchive) (pad : Nat) (r : RecD) : Prop :=
  r.2.1 = 0 ∨ r.2.2 + pad + r.2.1 ≤ a.data.length

/-- A record of a readable table whose range is inside the data is read in full: size and offset
are 32-bit words, so the end of the range is below 2^64. -/
theorem readBytes_inRange {a : BinArchive} (hle : a.endian = .little) {pad ia k : Nat} {r : RecD}
    (hpad : pad ≤ 0x60) (h : RecordAt (contentOf a) ia k r.1 r.2.1 r.2.2) (hin : RangeInside a pad r) :
    ∃ r', readerReadBytes a ⟨r.2.2 + pad⟩ r.2.1 = .ok ((a.data.drop (r.2.2 + pad)).take r.2.1, r') := by
  have h1 := u32le_lt hle h.2.2.1
  have h2 := u32le_lt hle h.2.2.2
  rw [readerReadBytes_eq]
  by_cases hz : r.2.1 = 0
  · exact ⟨⟨r.2.2 + pad⟩, by simp [hz]⟩
  · exact ⟨⟨r.2.2 + pad + r.2.1⟩,
      by simp [hz, hin.resolve_left hz, (by omega : r.2.2 + pad + r.2.1 < 2 ^ 64), slice]⟩

theorem readBytes_err (a : BinArchive) (n s : Nat) (hn : 0 < n) (h : a.data.length < s + n) :
    readerReadBytes a ⟨s⟩ n = .err .OutOfBounds := by
  rw [readerReadBytes_eq, if_neg (by omega), if_neg (by omega)]

theorem extract_ok {a : BinArchive} (hle : a.endian = .little) {pad : Nat} (hpad : pad ≤ 0x60)
    (ia : Nat) : ∀ (rs : List RecD) (k : Nat) (acc : UMap Str Bytes),
    RecsAt a ia k rs → (∀ r ∈ rs, RangeInside a pad r) →
    ((acc ++ rs.map (fun r => (r.1, (a.data.drop (r.2.2 + pad)).take r.2.1))).map (·.1)).Nodup →
    extract a (entriesR a pad ia k rs) acc =
      .ok (acc ++ rs.map (fun r => (r.1, (a.data.drop (r.2.2 + pad)).take r.2.1))) := by
  intro rs
  induction rs with
  | nil => intro k acc _ _ _; simp only [entriesR, extract, List.map_nil, List.append_nil]
  | cons r rs ih =>
    intro k acc ⟨h0, hrest⟩ hin hnd
    obtain ⟨r', hrb⟩ := readBytes_inRange hle hpad h0 (hin r List.mem_cons_self)
    have hfresh : r.1 ∉ acc.map (·.1) := UMap.not_mem_keys_of_nodup_append hnd
    simp only [entriesR, extract, hrb, UMap.insert_of_not_mem acc r.1 _ hfresh]
    rw [ih (k + 1) _ hrest (fun x hx => hin x (List.mem_cons_of_mem _ hx)) (by rwa [List.append_assoc]),
      List.append_assoc]
    rfl

theorem extract_err {a : BinArchive} (hle : a.endian = .little) {pad : Nat} (hpad : pad ≤ 0x60)
    (ia : Nat) : ∀ (rs : List RecD) (k : Nat) (acc : UMap Str Bytes) (i : Nat) (hi : i < rs.length),
    RecsAt a ia k rs → (∀ j, (hj : j < i) → RangeInside a pad (rs[j]'(Nat.lt_trans hj hi))) →
    0 < rs[i].2.1 → a.data.length < rs[i].2.2 + pad + rs[i].2.1 →
    extract a (entriesR a pad ia k rs) acc = .err .OutOfBounds := by
  intro rs
  induction rs with
  | nil => intro k acc i hi; exact absurd hi (Nat.not_lt_zero _)
  | cons r rs ih =>
    intro k acc i hi ⟨h0, hrest⟩ hin hpos hout
    cases i with
    | zero => simp only [entriesR, extract, readBytes_err a r.2.1 (r.2.2 + pad) hpos hout]
    | succ i =>
      obtain ⟨r', hrb⟩ := readBytes_inRange hle hpad h0 (hin 0 (Nat.zero_lt_succ i))
      simp only [entriesR, extract, hrb]
      exact ih (k + 1) _ i (Nat.lt_of_succ_lt_succ hi) hrest
        (fun j hj => hin (j + 1) (Nat.succ_lt_succ hj)) hpos hout

/-- Both labels resolve, the first data word and the count word are readable. -/
structure TableOk (a : BinArchive) (ca ia w n : Nat) : Prop where
  hle : a.endian = .little
  hnd : (a.text.map (·.1)).Nodup
  hcount : LowestLabel (contentOf a) Spec.Arc.COUNT ca
  hinfo : LowestLabel (contentOf a) Spec.Arc.INFO ia
  hw : u32le a.data 0 = some w
  hn : u32le a.data ca = some n

def padOf (w : Nat) : Nat := if w = 0 then 0x60 else 0

theorem padOf_le (w : Nat) : padOf w ≤ 0x60 := by unfold padOf; split <;> omega

theorem fromArchive_table (p : Profile) (a : BinArchive) {ca ia w n : Nat} (t : TableOk a ca ia w n) :
    fromArchive p a = match readRecords p a (padOf w) n ⟨ia⟩ with
      | .ok (entries, _) => extract a entries []
      | .err e => .err e
      | .panic => .panic := by
  obtain ⟨hw4, hw⟩ := (u32le_eq_some t.hle).mp t.hw
  obtain ⟨hn4, hn⟩ := (u32le_eq_some t.hle).mp t.hn
  simp only [fromArchive, (findLabel_eq_some a COUNT ca).mpr t.hcount,
    (findLabel_eq_some a INFO ia).mpr t.hinfo, readU32_eq_len, readerU32_eq, hw4, hn4, if_true, hw, hn,
    Reader.seek]
  rfl

theorem fromArchive_records (p : Profile) (a : BinArchive) {ca ia w : Nat} (rs : List RecD)
    (t : TableOk a ca ia w rs.length) (hrs : RecsAt a ia 0 rs) :
    fromArchive p a = extract a (entriesR a (padOf w) ia 0 rs) [] := by
  have := readRecords_prefix p a t.hle t.hnd (padOf w) (padOf_le w) ia rs 0 hrs 0
  simp only [Nat.add_zero, Nat.mul_zero, readRecords, List.append_nil] at this
  rw [fromArchive_table p a t, this]

open Mila.Spec.Arc (FileOk HeaderOk HeaderFits padding)

theorem fileOk_iff {K : Content} {padded : Bool} {ia i : Nat} {f : Str × Bytes} :
    FileOk K padded ia i f ↔
      ∃ off, RecordAt K ia i f.1 f.2.length off ∧ BodyAt K (off + padding padded) f.2 := by
  unfold FileOk
  cases hu : u32le K.data (ia + 16 * i + 12) with
  | none => exact ⟨False.elim, fun ⟨off, hr, _⟩ => by cases hu.symm.trans hr.2.2.2⟩
  | some off =>
    exact ⟨fun h => ⟨off, h⟩, fun ⟨off', hr, hb⟩ => by cases hu.symm.trans hr.2.2.2; exact ⟨hr, hb⟩⟩

theorem files_recs (a : BinArchive) (padded : Bool) (ia : Nat) : ∀ (files : List (Str × Bytes)) (k : Nat),
    (∀ i, (hi : i < files.length) → FileOk (contentOf a) padded ia (k + i) files[i]) →
    ∃ rs, RecsAt a ia k rs ∧ (∀ r ∈ rs, RangeInside a (padding padded) r) ∧
      rs.map (fun r => (r.1, (a.data.drop (r.2.2 + padding padded)).take r.2.1)) = files := by
  intro files
  induction files with
  | nil => intro k _; exact ⟨[], trivial, nofun, rfl⟩
  | cons f fs ih =>
    intro k h
    obtain ⟨h0, hrest⟩ := forall_idx_cons
      (P := fun i (f : Str × Bytes) => FileOk (contentOf a) padded ia i f) h
    obtain ⟨rs, i1, i2, i3⟩ := ih (k + 1) hrest
    obtain ⟨off, hrec, hbody⟩ := fileOk_iff.mp h0
    have hbody' : (a.data.drop (off + padding padded)).take f.2.length = f.2 := hbody
    refine ⟨(f.1, f.2.length, off) :: rs, ⟨hrec, i1⟩, List.forall_mem_cons.mpr ⟨?_, i2⟩, ?_⟩
    · by_cases hz : f.2.length = 0
      · exact Or.inl hz
      · have hl := congrArg List.length hbody'
        simp only [List.length_take, List.length_drop] at hl
        exact Or.inr (by simp only []; omega)
    · rw [List.map_cons, i3, hbody']

/-- From `HeaderFits`: the first word `w` exists, and the padding the code derives from it is the
padding of *some* header flag under which every record still describes its file (when no file
has a body the flag is immaterial). -/
theorem header_fits_word (K : Content) (files : List (Str × Bytes)) (padded : Bool) (ia : Nat)
    (h : HeaderFits K files padded)
    (hfiles : ∀ i, (hi : i < files.length) → FileOk K padded ia i files[i]) :
    ∃ w padded', u32le K.data 0 = some w ∧ padOf w = padding padded' ∧
      ∀ i, (hi : i < files.length) → FileOk K padded' ia i files[i] := by
  rcases h with h | ⟨hw, hempty⟩
  · unfold HeaderOk at h
    cases padded with
    | true =>
      -- a zero header: the first word is 0
      obtain ⟨hlen, hz⟩ := h
      have h4 : K.data.take 4 = List.replicate 4 0 := by
        have := congrArg (List.take 4) hz
        rwa [List.take_take] at this
      refine ⟨0, true, ?_, rfl, hfiles⟩
      simp only [u32le, (by omega : 0 + 4 ≤ K.data.length), if_true, List.drop_zero, h4]
      rfl
    | false =>
      simp only [Bool.false_eq_true, if_false] at h
      split at h
      · rename_i w hw
        exact ⟨w, false, hw, by simp [padOf, padding, h], hfiles⟩
      · exact h.elim
  · obtain ⟨w, hw0⟩ := Option.isSome_iff_exists.mp hw
    refine ⟨w, decide (w = 0), hw0, by by_cases hz : w = 0 <;> simp [padOf, padding, hz], ?_⟩
    intro i hi
    obtain ⟨off, hr, _⟩ := fileOk_iff.mp (hfiles i hi)
    exact fileOk_iff.mpr ⟨off, hr, by simp [BodyAt, hempty _ (List.getElem_mem hi)]⟩

/-! Totality: each function passes on the outcomes of its callees and adds no panic of its own; one
case per path, and on a path that ends in a callee's panic that callee's lemma contradicts it.  The
one checked addition, in `readRecord`, cannot overflow (`readRecord_eq`). -/

theorem readRecord_total (p : Profile) (a : BinArchive) (pad : Nat) (hpad : pad ≤ 0x60) (r : Reader) :
    readRecord p a pad r ≠ .panic := by
  rw [readRecord_eq p a hpad]
  split
  · split
    · nofun
    · exact Res.guard_ne_panic nofun
  · nofun

theorem readRecords_total (p : Profile) (a : BinArchive) (pad : Nat) (hpad : pad ≤ 0x60) (n : Nat)
    (r : Reader) : readRecords p a pad n r ≠ .panic := by
  fun_induction readRecords p a pad n r <;> simp_all [readRecord_total]

theorem readBytes_total (a : BinArchive) (n : Nat) (r : Reader) : readerReadBytes a r n ≠ .panic := by
  rw [readerReadBytes_eq]
  split
  · nofun
  · exact Res.guard_ne_panic nofun

theorem extract_total (a : BinArchive) (es : List ArcEntry) (acc : UMap Str Bytes) :
    extract a es acc ≠ .panic := by
  fun_induction extract a es acc <;> simp_all [readBytes_total]

theorem fromArchive_total (p : Profile) (a : BinArchive) : fromArchive p a ≠ .panic := by
  fun_cases fromArchive p a
  -- the table was read, the result is `extract`'s
  case case3 => exact extract_total a _ _
  -- `readRecords` would have panicked
  case case5 h => exact absurd h (readRecords_total p a _ (padOf_le _) _ _)
  -- reading the count word would have panicked
  case case7 h => exact absurd h (Reader.readU32_ne_panic a _)
  -- reading the first data word would have panicked
  case case9 h => exact absurd h (readUInt_ne_panic a _ 4)
  all_goals nofun

theorem fromBytes_total (c : Codec) (p : Profile) (bytes : Bytes) : fromBytes c p bytes ≠ .panic := by
  unfold fromBytes
  split
  · exact fromArchive_total p _
  · nofun
  · exact absurd ‹_› (parse_ne_panic c _ bytes)

theorem readRecords_profile (p p' : Profile) (a : BinArchive) (pad : Nat) (hpad : pad ≤ 0x60) :
    ∀ n r, readRecords p a pad n r = readRecords p' a pad n r := by
  intro n
  induction n with
  | zero => intro r; rfl
  | succ n ih => intro r; simp only [readRecords, readRecord_eq _ a hpad, ih]

theorem fromArchive_profile (p p' : Profile) (a : BinArchive) : fromArchive p a = fromArchive p' a := by
  have h := fun w => readRecords_profile p p' a (if w = 0 then 0x60 else 0) (padOf_le w)
  simp only [fromArchive, h]

theorem fromBytes_profile (c : Codec) (p p' : Profile) (bytes : Bytes) :
    fromBytes c p bytes = fromBytes c p' bytes := by
  simp only [fromBytes, fromArchive_profile p p']

end Mila.ArcLemmas
