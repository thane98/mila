/-
C20, BCH: a conforming file is read as the packed textures (symbolic execution of `bchProg`
against `Spec.Tex.ConformsBch`), with the read high-water mark above every payload; a file with a
wrong magic number is rejected.
-/
import MilaModel.Lemmas.TexSpec

namespace Mila.Containers
open Prog Spec.Tex

/-- `Header::new` on a file with the right magic that is long enough for its header shape. -/
theorem bchHeader_run (f : Buf) (hmagic : f.leN 0 4 = 0x484342) (h56 : 56 ≤ f.size)
    (h64 : 20 < f.leN 4 1 → 64 ≤ f.size) :
    ∃ o hi, run bchHeader f ⟨0, [], 0⟩ =
      .ok (⟨f.leN 8 4, f.leN 12 4, f.leN 16 4, f.leN 20 4⟩, ⟨o, [], hi⟩) := by
  by_cases hb : 20 < f.leN 4 1
  · have := h64 hb
    clear h64
    exec [bchHeader]
    exact ⟨_, _, rfl⟩
  · clear h64
    exec [bchHeader]
    exact ⟨_, _, rfl⟩

theorem bchContentTable_run (p : Profile) (f : Buf) (o : Nat) (ns : List Bytes) (hi : Nat)
    (hsize : f.size < 2 ^ 32) (hct : f.leN 8 4 + 0x2C ≤ f.size) (htbl : bchTable f < 2 ^ 32) :
    ∃ o' hi', run (bchContentTable p (f.leN 8 4)) f ⟨o, ns, hi⟩ =
      .ok ((bchTable f, f.leN (f.leN 8 4 + 0x28) 4), ⟨o', ns, hi'⟩) := by
  simp only [bchTable, u32At_eq] at htbl ⊢
  exec [bchContentTable, Nat.add_comm (f.leN (f.leN 8 4 + 36) 4)]
  exact ⟨_, _, rfl⟩

theorem bchEntry_run (p : Profile) (f : Buf) (i : Nat) (t : Tex) (s : St)
    (htex : bchTexture f i t = true) (hvalid : valid3ds t = true) (hname : utf8Name t = true) :
    ∃ s', run (bchEntry p (f.leN 8 4) (f.leN 12 4) (f.leN 16 4) (f.leN 20 4) (bchTable f) i) f s =
        .ok ((t.width, t.height, pixelsOf p t), s') ∧
      s'.names = t.name :: s.names ∧ bchPayloadAt f i + t.payload.size ≤ s'.hi := by
  simp only [bchTexture, Bool.and_eq_true, decide_eq_true_eq, beq_iff_eq, u16At_eq, u32At_eq] at htex
  obtain ⟨⟨⟨⟨⟨⟨⟨⟨⟨⟨⟨⟨hent, hdesc⟩, hcmd⟩, hent32⟩, hdesc32⟩, hcmd32⟩, hname32⟩, hdata32⟩, hcstr⟩,
    hhei⟩, hwid⟩, hfmt⟩, hbytes⟩ := htex
  obtain ⟨o, ns, hi⟩ := s
  -- the sums the reader forms are the specification's addresses, with the summands swapped
  have e_desc : f.leN (bchTable f + 4 * i) 4 + f.leN 8 4 = bchDesc f i := by
    simp only [bchDesc, u32At_eq]; omega
  have e_cmd : f.leN (bchDesc f i) 4 + f.leN 16 4 = bchCmd f i := by
    simp only [bchCmd, u32At_eq]; omega
  have e_data : f.leN (bchCmd f i + 0x10) 4 + f.leN 20 4 = bchPayloadAt f i := by
    simp only [bchPayloadAt, u32At_eq]; omega
  exec [bchEntry, Nat.mul_comm i 4, e_desc, e_cmd, e_data, readName_run hcstr (utf8Name_decodes hname),
    hfmt, hwid, hhei, readAndDecode_run p t hvalid hbytes]
  exact ⟨_, rfl, rfl, by apply Nat.le_max_right⟩

theorem bch_full (p : Profile) (f : Buf) (texs : List Tex) (hc : ConformsBch f texs = true) :
    ∃ raws sf, run (bchProg p) f ⟨0, [], 0⟩ = .ok (raws, sf) ∧
      assemble sf.names.reverse raws = texs.map (unpack p) ∧
      ∀ i t, texs[i]? = some t → bchPayloadAt f i + t.payload.size ≤ sf.hi := by
  simp only [ConformsBch, Bool.and_eq_true, decide_eq_true_eq, beq_iff_eq] at hc
  obtain ⟨⟨⟨hsize, h8⟩, hmagic⟩, hrest⟩ := hc
  cases hext : bchExtended (u8At f 4) with
  | none => simp [hext] at hrest
  | some ext =>
    simp only [hext, Bool.and_eq_true, decide_eq_true_eq, beq_iff_eq, u32At_eq] at hrest
    obtain ⟨⟨⟨⟨hhl, hct⟩, htbl32⟩, hcount⟩, hall⟩ := hrest
    have hent := allIdx_spec _ texs 0 hall
    simp only [Nat.zero_add, Bool.and_eq_true] at hent
    rw [u32At_eq] at hmagic
    -- the header: `bchExtended` decides between the two lengths as the reader does
    have hlen : 56 ≤ f.size ∧ (20 < f.leN 4 1 → 64 ≤ f.size) := by
      simp only [bchExtended, u8At_eq] at hext
      simp only [bchHeaderLen] at hhl
      split at hext
      · cases hext; simp at hhl; omega
      · split at hext
        · cases hext; simp at hhl; omega
        · cases hext
    obtain ⟨o0, hi0, hhdr⟩ := bchHeader_run f hmagic hlen.1 hlen.2
    obtain ⟨o1, hi1, hctr⟩ := bchContentTable_run p f (f.leN 8 4) [] hi0 hsize hct htbl32
    obtain ⟨raws, sf, hraws, hasm, hH⟩ :=
      textures_run p (bchEntry p (f.leN 8 4) (f.leN 12 4) (f.leN 16 4) (f.leN 20 4) (bchTable f)) f
        (fun i t => bchPayloadAt f i + t.payload.size) (List.range texs.length) texs ⟨o1, [], hi1⟩ rfl
        List.length_range (by
          intro i j t s hj ht
          obtain ⟨⟨he1, he2⟩, he3⟩ := hent i t ht
          obtain ⟨_, rfl⟩ := eq_of_range hj
          exact bchEntry_run p f i t s he1 he2 he3)
    refine ⟨raws, sf, ?_, hasm, hH⟩
    exec [bchProg, run_bind_ok hhdr, run_bind_ok hctr, hcount, forIdx_eq_mapM', ← List.range_eq_range', hraws]

theorem bch_bad_magic (p : Profile) (f : Buf) (h : f.size < 4 ∨ u32At f 0 ≠ 0x484342) :
    run (bchProg p) f ⟨0, [], 0⟩ = .err (if f.size < 4 then .Eof else .BadMagic) :=
  run_bad_magic (fun b => b.leN 0 4) _ _ _ _ f (leN_extract f 0 _ 0 4 (Nat.le_refl _)) (u32At_eq f 0 ▸ h)

end Mila.Containers
