/-
C17: `ASetFile::serialize` builds an archive that shows the declarative layout of the file
(`Aset.Layout`) and is tidy (`Compose.Tidy`, C01's domain), for every file whose sets are
non-empty lists; the cells of a set cost what the specification's size formula says.
-/
import MilaModel.Lemmas.AsetLayout
import MilaModel.Lemmas.AsetWriter
import MilaModel.Spec.Aset

namespace Mila.Compose
open Mila Mila.Aset

/-- Every string of the file (meta string, clip names, set labels and slot names) and the reserved
table label lie in `D`. -/
structure AsetStrsIn (D : Str → Prop) (f : ASetFile) : Prop where
  tableLabel : D Aset.tableLabel
  metaStr : ∀ s, f.metaStr = some s → D s
  clips : ∀ s, some s ∈ f.animClipTable → D s
  sets : ∀ set ∈ f.sets, ∀ s, some s ∈ set → D s

theorem AsetStrsIn.trivial (f : ASetFile) : AsetStrsIn (fun _ => True) f :=
  ⟨True.intro, fun _ _ => True.intro, fun _ _ => True.intro, fun _ _ _ _ => True.intro⟩

end Mila.Compose

namespace Mila.Aset
open Mila BinArchive Layered Compose

variable {D : Str → Prop}

theorem slotCells_length (s : List (Option Str)) (i : Nat) :
    ∀ (n j : Nat), (slotCells s i n j).length
      = (List.range' j n).countP (fun bit => present s (i * 32 + bit + 1)) := by
  intro n
  induction n with
  | zero => intro j; rfl
  | succ n ih =>
    intro j
    rw [List.range'_succ, List.countP_cons, present_eq]
    unfold slotCells
    cases (s[i * 32 + j + 1]?).join with
    | some v => simp only [List.length_cons, ih, Option.isSome_some, if_true]
    | none => simp only [ih, Option.isSome_none, Bool.false_eq_true, if_false, Nat.add_zero]

theorem slotCells_length_eq (s : List (Option Str)) (i : Nat) :
    (slotCells s i 32 0).length = stringsIn s i := by
  rw [slotCells_length, stringsIn, List.range_eq_range']

theorem stringsIn_eq_zero_iff (s : List (Option Str)) (i : Nat) :
    stringsIn s i = 0 ↔ setFlags s i = 0 := by
  rw [setFlags_eq_zero, stringsIn, List.countP_eq_zero]
  simp only [List.mem_range, Bool.not_eq_true]

theorem groupCells_length (s : List (Option Str)) (i : Nat) :
    (groupCells s i).length = (if setFlags s i ≠ 0 then 1 else 0) + stringsIn s i := by
  unfold groupCells
  by_cases hz : setFlags s i = 0
  · simp [hz, (stringsIn_eq_zero_iff s i).2 hz]
  · simp [hz, slotCells_length_eq]; omega

theorem groupsCells_length (s : List (Option Str)) :
    ∀ (n i : Nat), (groupsCells s n i).length
      = (List.range' i n).countP (fun g => setFlags s g ≠ 0) + ((List.range' i n).map (stringsIn s)).sum := by
  intro n
  induction n with
  | zero => intro i; rfl
  | succ n ih =>
    intro i
    rw [List.range'_succ, List.countP_cons, List.map_cons, List.sum_cons]
    simp only [groupsCells, List.length_append, ih, groupCells_length]
    by_cases hz : setFlags s i = 0 <;> simp [hz] <;> omega

theorem setCells_length (s : List (Option Str)) :
    (setCells s).length = flagsToWrite s + stringsToWrite s + 1 := by
  simp only [setCells, List.length_cons, groupsCells_length, flagsToWrite, stringsToWrite,
    List.range_eq_range']

theorem present_eq_spec (s : List (Option Str)) (k : Nat) :
    present s k = Spec.Aset.slotPresent s k := by
  unfold present Spec.Aset.slotPresent
  cases s[k]? with
  | none => rfl
  | some o => cases o <;> rfl

theorem stringsIn_eq_spec (s : List (Option Str)) (g : Nat) :
    stringsIn s g = Spec.Aset.groupSlots s g := by
  unfold stringsIn Spec.Aset.groupSlots
  congr 1
  funext j
  rw [present_eq_spec, Nat.mul_comm]

theorem setCells_cost (s : List (Option Str)) :
    4 * (setCells s).length = Spec.Aset.setCost s := by
  rw [setCells_length]
  unfold Spec.Aset.setCost Spec.Aset.nonEmptyGroups Spec.Aset.presentSlots flagsToWrite stringsToWrite
  have h1 : (List.range 8).countP (fun g => decide (setFlags s g ≠ 0))
      = (List.range 8).countP (fun g => decide (Spec.Aset.groupSlots s g ≠ 0)) := by
    congr 1
    funext g
    rw [decide_eq_decide, ← stringsIn_eq_spec]
    exact not_congr (stringsIn_eq_zero_iff s g).symm
  have h2 : (List.range 8).map (stringsIn s) = (List.range 8).map (Spec.Aset.groupSlots s) := by
    congr 1
    funext g
    exact stringsIn_eq_spec s g
  rw [h1, h2]
  omega

theorem setsCells_cost (sets : List (List (Option Str))) :
    4 * (setsCells sets).length = (sets.map Spec.Aset.setCost).sum := by
  induction sets with
  | nil => rfl
  | cons s rest ih =>
    simp only [setsCells, List.flatMap_cons, List.length_append, List.map_cons, List.sum_cons] at ih ⊢
    rw [← ih, ← setCells_cost]; omega

theorem writeSlots_layout (s : List (Option Str)) (hs : ∀ v, some v ∈ s → D v) (i : Nat) :
    ∀ (n j : Nat), Writes D (writeSlots s i n j) (slotCells s i n j) := by
  intro n
  induction n with
  | zero => intro j; exact Writes.nil
  | succ n ih =>
    intro j
    show Writes D (fun w => writeSlots s i (n + 1) j w) _
    simp only [writeSlots, slotCells]
    cases hv : (s[i * 32 + j + 1]?).join with
    | some v =>
      have hD : ∀ u, some v = some u → D u :=
        fun u e => by cases e; exact hs v (List.mem_of_getElem? (Option.join_eq_some_iff.1 hv))
      exact (writes_string (some v) hD).seq (ih (j + 1))
    | none => exact ih (j + 1)

theorem writeGroups_layout (s : List (Option Str)) (hs : ∀ v, some v ∈ s → D v) :
    ∀ (n i : Nat),
      Writes D (writeGroups s ((List.range' i n).map (setFlags s)) i) (groupsCells s n i) := by
  intro n
  induction n with
  | zero => intro i; exact Writes.nil
  | succ n ih =>
    intro i
    rw [List.range'_succ, List.map_cons]
    show Writes D (fun w => writeGroups s (_ :: _) i w) _
    simp only [writeGroups, groupsCells, groupCells]
    by_cases hz : setFlags s i = 0
    · simp only [hz, ne_eq, not_true_eq_false, if_false, List.nil_append]
      exact ih (i + 1)
    · simp only [ne_eq, hz, not_false_eq_true, if_true]
      exact (writes_u32 (setFlags s i)).seq ((writeSlots_layout s hs i 32 0).seq (ih (i + 1)))

/-- The label map after the optional `write_label` of a set that starts at `p`. -/
def labelsAfter (m : UMap Nat (List Str)) (p : Nat) : Option Str → UMap Nat (List Str)
  | none => m
  | some l =>
    match m.get p with
    | some bucket => m.insert p (bucket ++ [l])
    | none => m.insert p [l]

theorem writeLabel_ok {a : BinArchive} {pos : Nat} {cs : List Cell} (h : WInv a pos cs) {l : Str}
    (hl : D l) :
    ∃ a', Writer.writeLabel ⟨a, pos⟩ l = .ok ⟨a', pos⟩ ∧ WInv a' pos cs ∧ a'.size = a.size
      ∧ a'.labels = labelsAfter a.labels pos (some l) ∧ (Tidy D a → Tidy D a') := by
  have hw : Writer.writeLabel ⟨a, pos⟩ l
      = .ok ⟨{ a with labels := labelsAfter a.labels pos (some l) }, pos⟩ := by
    unfold Writer.writeLabel Writer.step BinArchive.writeLabel
    simp only [validateAddress_le h.le, labelsAfter]
    cases a.labels.get pos <;> rfl
  exact ⟨_, hw, h.withLabels _, rfl, rfl, fun t => t.writeLabel hl (Writer.step_ok hw)⟩

theorem compiledFlags_take (s : List (Option Str)) :
    (compiledFlags s).take 8 = (List.range' 0 8).map (setFlags s) := by
  unfold compiledFlags
  rw [List.range_eq_range', List.take_of_length_le (by simp)]

theorem writeSetBody_layout (s : List (Option Str)) (hs : ∀ v, some v ∈ s → D v) :
    Writes D (writeSetBody s) (setCells s) := by
  have := (writes_u32 (D := D) (mainFlags s)).seq (writeGroups_layout s hs 8 0)
  rw [← compiledFlags_take] at this
  exact this

theorem writeSet_layout (s : List (Option Str)) (hne : s ≠ []) (hs : ∀ v, some v ∈ s → D v)
    (a : BinArchive) (pos : Nat) (cs : List Cell) (h : WInv a pos cs) (hend : pos = a.size) :
    ∃ a', writeSet ⟨a, pos⟩ s = .ok ⟨a', a'.size⟩ ∧ WInv a' a'.size (cs ++ setCells s)
      ∧ a'.size = a.size + 4 * (setCells s).length
      ∧ a'.labels = labelsAfter a.labels pos (s[0]?).join ∧ (Tidy D a → Tidy D a') := by
  obtain ⟨l0, rest, rfl⟩ := List.exists_cons_of_ne_nil hne
  unfold writeSet Writer.allocateAtEnd
  simp only [List.getElem?_cons_zero, Option.join_some]
  have hn : (flagsToWrite (l0 :: rest) + stringsToWrite (l0 :: rest) + 1) * 4
      = 4 * (setCells (l0 :: rest)).length := by rw [setCells_length]; omega
  rw [hn]
  generalize hn' : 4 * (setCells (l0 :: rest)).length = n
  have hs0 : (a.allocateAtEnd n).size = a.size + n := size_allocateAtEnd a n
  have h0 := h.allocateAtEnd n
  -- the optional label changes the label map only
  have hw1 : ∃ a1, (match l0 with
        | none => Res.ok (⟨a.allocateAtEnd n, pos⟩ : Writer)
        | some label => Writer.writeLabel ⟨a.allocateAtEnd n, pos⟩ label) = .ok ⟨a1, pos⟩
      ∧ WInv a1 pos cs ∧ a1.size = a.size + n ∧ a1.labels = labelsAfter a.labels pos l0
      ∧ (Tidy D a → Tidy D a1) := by
    cases l0 with
    | none => exact ⟨_, rfl, h0, hs0, rfl, fun t => t.allocateAtEnd n⟩
    | some label =>
      obtain ⟨a1, hw, hi, hsz, hl, ht⟩ := writeLabel_ok h0 (hs label (List.mem_cons_self ..))
      exact ⟨a1, hw, hi, hsz.trans hs0, hl, fun t => ht (t.allocateAtEnd n)⟩
  obtain ⟨a1, hw1, hi1, hs1, hl1, ht1⟩ := hw1
  obtain ⟨a', hw, hi, hs', hl, ht⟩ := writeSetBody_layout (l0 :: rest) hs a1 pos cs hi1 (by omega)
  have e : pos + 4 * (setCells (l0 :: rest)).length = a'.size := by omega
  rw [e] at hw hi
  refine ⟨a', ?_, hi, by omega, hl.trans hl1, ht ∘ ht1⟩
  cases l0 with
  | none => cases hw1; exact hw
  | some label => simp only [hw1]; exact hw

/-- Label invariant of `serialize`: the table label sits alone at 12, every other label key lies
in `(12, bound)`. -/
structure LInv (m : UMap Nat (List Str)) (bound : Nat) : Prop where
  table : m.get 12 = some [tableLabel]
  range : ∀ x, m.get x ≠ none → 12 ≤ x ∧ x < bound

theorem get_labelsAfter_ne (m : UMap Nat (List Str)) (p x : Nat) (l : Option Str) (hx : x ≠ p) :
    (labelsAfter m p l).get x = m.get x := by
  cases l with
  | none => rfl
  | some l =>
    unfold labelsAfter
    cases m.get p <;> simp [UMap.get_insert, hx]

theorem labelAt_labelsAfter (a a' : BinArchive) (p : Nat) (l : Option Str)
    (hfresh : a.labels.get p = none) (hl : a'.labels = labelsAfter a.labels p l) :
    labelAt a' p = l := by
  unfold labelAt
  rw [hl]
  cases l with
  | none => simp [labelsAfter, hfresh]
  | some l => simp [labelsAfter, hfresh, UMap.get_insert]

theorem LInv.after {m : UMap Nat (List Str)} {bound p : Nat} (h : LInv m bound) (hp : bound ≤ p)
    (h12 : 12 < p) (l : Option Str) (bound' : Nat) (hb : p < bound') :
    LInv (labelsAfter m p l) bound' := by
  refine ⟨by rw [get_labelsAfter_ne _ _ _ _ (by omega)]; exact h.table, ?_⟩
  intro x hx
  by_cases e : x = p
  · omega
  · rw [get_labelsAfter_ne _ _ _ _ e] at hx
    have := h.range x hx
    omega

theorem writeSets_layout :
    ∀ (sets : List (List (Option Str))) (a : BinArchive) (pos : Nat) (cs : List Cell),
      WInv a pos cs → pos = a.size → LInv a.labels pos → 12 < pos → (∀ s ∈ sets, s ≠ []) →
      (∀ s ∈ sets, ∀ v, some v ∈ s → D v) →
      ∃ a', writeSets sets ⟨a, pos⟩ = .ok ⟨a', a'.size⟩ ∧ WInv a' a'.size (cs ++ setsCells sets)
        ∧ LInv a'.labels a'.size ∧ labelsAt a' pos sets
        ∧ (∀ x, x < pos → a'.labels.get x = a.labels.get x) ∧ (Tidy D a → Tidy D a') := by
  intro sets
  induction sets with
  | nil =>
    intro a pos cs h hend hl _ _ _
    exact ⟨a, by rw [← hend]; rfl, by rw [← hend]; simpa [setsCells] using h, by rw [← hend]; exact hl,
      trivial, fun _ _ => rfl, id⟩
  | cons s rest ih =>
    intro a pos cs h hend hl h12 hne hD
    obtain ⟨a1, hw1, hi1, hs1, hl1, ht1⟩ :=
      writeSet_layout s (hne s (by simp)) (hD s (by simp)) a pos cs h hend
    have hpos := setCells_length_pos s
    -- every label key so far lies below the cursor (`LInv`): the set's label opens a new bucket
    have hfresh : a.labels.get pos = none := by
      cases hg : a.labels.get pos with
      | none => rfl
      | some v => have := (hl.range pos (by rw [hg]; simp)).2; omega
    have hl1' : LInv a1.labels a1.size := by
      rw [hl1]; exact hl.after (Nat.le_refl _) h12 _ _ (by omega)
    obtain ⟨a', hw', hi', hl', hla', hlt', ht'⟩ :=
      ih a1 a1.size _ hi1 rfl hl1' (by omega) (fun t ht => hne t (by simp [ht]))
        (fun t ht => hD t (by simp [ht]))
    unfold writeSets
    rw [hw1]
    simp only
    refine ⟨a', hw', by simpa [setsCells] using hi', hl', ⟨?_, ?_⟩, ?_, ht' ∘ ht1⟩
    · have := hlt' pos (by omega)
      unfold labelAt at *
      rw [this]
      exact labelAt_labelsAfter a a1 pos _ hfresh hl1
    · have : pos + 4 * (setCells s).length = a1.size := by omega
      rw [this]; exact hla'
    · intro x hx
      rw [hlt' x (by omega), hl1, get_labelsAfter_ne _ _ _ _ (by omega)]

theorem writeTable_layout : ∀ (t : List (Option Str)), (∀ v, some v ∈ t → D v) →
    Writes D (writeTable t) (t.map .str) := by
  intro t
  induction t with
  | nil => intro _; exact Writes.nil
  | cons x t ih =>
    intro ht
    exact (writes_string x fun v e => ht v (by simp [e])).seq
      (ih fun v hv => ht v (List.mem_cons_of_mem _ hv))

theorem present_replicate_none (m k : Nat) : present (List.replicate m none) k = false := by
  unfold present
  rw [List.getElem?_replicate]
  by_cases h : k < m <;> simp [h]

/-- A set without any name is written as one zero word, whatever its length. -/
theorem writeSet_empty (m : Nat) (w : Writer) :
    writeSet w (List.replicate (m + 1) none) = (w.allocateAtEnd 4).writeU32 0 := by
  have h2 : setFlags (List.replicate (m + 1) none) = fun _ => 0 :=
    funext fun g => (setFlags_eq_zero _ g).2 fun j _ => present_replicate_none _ _
  have h3 : stringsIn (List.replicate (m + 1) none) = fun _ => 0 :=
    funext fun g => (stringsIn_eq_zero_iff _ g).2 (congrFun h2 g)
  have hm : mainFlags (List.replicate (m + 1) none) = 0 := by
    rw [mainFlags_eq, orFold_eq_zero_iff]
    intro b _ hp
    exact hp (congrFun h2 b)
  have h0 : (List.replicate (m + 1) (none : Option Str))[0]? = some none := by simp
  unfold writeSet writeSetBody compiledFlags flagsToWrite stringsToWrite
  simp only [h0, hm, h2, h3]
  show (match (w.allocateAtEnd 4).writeU32 0 with
    | .ok w2 => writeGroups _ [0, 0, 0, 0, 0, 0, 0, 0] 0 w2
    | .err e => .err e
    | .panic => .panic) = _
  cases (w.allocateAtEnd 4).writeU32 0 <;> rfl

/-- `build` uses the sets only through `writeSets`. -/
theorem build_congr (f g : ASetFile) (hm : f.metaStr = g.metaStr)
    (ht : f.animClipTable = g.animClipTable) (hs : writeSets f.sets = writeSets g.sets) :
    build f = build g := by
  unfold build
  rw [hm, ht, hs]

/-- **Writer correctness**: `serialize` builds an archive with the layout of `f`, tidy when the
file's strings are in `D`. -/
theorem build_layout (f : ASetFile) (hne : ∀ s ∈ f.sets, s ≠ []) (hclip : 0 < f.animClipTable.length)
    (hD : AsetStrsIn D f) : ∃ a, build f = .ok a ∧ Layout f a ∧ Plain a ∧ Tidy D a := by
  have h0 : WInv ((BinArchive.new .little).allocateAtEnd 12) 0 [] :=
    ⟨rfl, Nat.zero_le _, rfl, trivial, fun _ _ => rfl, fun x hx => absurd rfl hx, rfl⟩
  have t0 : Tidy D ((BinArchive.new .little).allocateAtEnd 12) := (tidy_new _).allocateAtEnd _
  have hs0 : ((BinArchive.new .little).allocateAtEnd 12).size = 12 := rfl
  -- the header: three positional writes at 0, 4, 8
  obtain ⟨a1, hw1, hi1, hs1, hl1, ht1⟩ := writes_u32 (D := D) 4 _ 0 [] h0 (by rw [hs0]; simp)
  obtain ⟨a2, hw2, hi2, hs2, hl2, ht2⟩ :=
    writes_string f.metaStr hD.metaStr a1 4 _ hi1 (by rw [hs1, hs0]; simp)
  obtain ⟨a3, hw3, hi3, hs3, hl3, ht3⟩ := writes_u32 (D := D) 0x100 a2 8 _ hi2 (by rw [hs2, hs1, hs0]; simp)
  have e1 : ((BinArchive.new .little).allocateAtEnd 12).writeUInt 0 4 4 = .ok a1 := Writer.step_ok hw1
  have e2 : a1.writeString 4 f.metaStr = .ok a2 := Writer.step_ok hw2
  have e3 : a2.writeUInt 8 4 0x100 = .ok a3 := Writer.step_ok hw3
  -- room for the clip table, and the table label
  generalize hn : f.animClipTable.length = n at hclip
  have hs4 : (a3.allocateAtEnd (n * 4)).size = 12 + n * 4 := by
    rw [size_allocateAtEnd, hs3, hs2, hs1, hs0]
  have hl4 : (a3.allocateAtEnd (n * 4)).labels = [] := (hl3.trans (hl2.trans hl1) : a3.labels = [])
  obtain ⟨a5, hw5, hi5, hs5, hl5, ht5⟩ :=
    writeLabel_ok (pos := 12) (hi3.allocateAtEnd (n * 4)) hD.tableLabel
  rw [hl4] at hl5
  obtain ⟨a6, hw6, hi6, hs6, hl6, ht6⟩ := writeTable_layout f.animClipTable hD.clips a5 12 _ hi5
    (by rw [List.length_map, hn, hs5, hs4]; omega)
  rw [List.length_map, hn] at hw6 hi6
  have hs6' : a6.size = 12 + 4 * n := by rw [hs6, hs5, hs4]; omega
  have hlinv : LInv a6.labels (12 + 4 * n) := by
    rw [hl6, hl5]
    refine ⟨by simp [labelsAfter, UMap.get_nil, UMap.insert, UMap.get_cons], ?_⟩
    intro x hx
    by_cases e : x = 12
    · omega
    · rw [get_labelsAfter_ne _ _ _ _ e] at hx; exact absurd (UMap.get_nil _) hx
  obtain ⟨a7, hw7, hi7, hl7, hla7, _, ht7⟩ :=
    writeSets_layout f.sets a6 _ _ hi6 hs6'.symm hlinv (by omega) hne hD.sets
  refine ⟨a7, ?_, ?_, hi7.plain,
    ht7 (ht6 (ht5 ((ht3 (ht2 (ht1 t0))).allocateAtEnd _)))⟩
  · simp only [build, e1, e2, e3, hn, hw5, hw6, hw7]
  · have hcells : fileCells f = [] ++ [Cell.raw (leBytes 4 4)] ++ [Cell.str f.metaStr]
        ++ [Cell.raw (leBytes 4 256)] ++ f.animClipTable.map .str ++ setsCells f.sets := by
      simp [fileCells, headerCells]
    refine ⟨hi7.little, ?_, ?_, ⟨[tableLabel], hl7.table, by simp⟩, fun x hx => (hl7.range x hx).1, ?_⟩
    · rw [hcells]; exact hi7.pos_eq
    · rw [hcells]; exact hi7.cells
    · have : 4 * (headerCells f).length = 12 + 4 * n := by
        simp [headerCells, hn]; omega
      rw [this]; exact hla7

end Mila.Aset
