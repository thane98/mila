/-
C18: `AssetSpec::append` / `AssetBinary::serialize` build an archive that shows the declarative
layout (`Asset.Layout`) and is tidy (`Compose.Tidy`, C01's domain); the record size announced by
`compute_flags` is exactly the cells written and the specification's `recordLen`; unused typed
fields are never written (`appendAll_normalize`).
-/
import MilaModel.Lemmas.AssetRead
import MilaModel.Lemmas.AsetWriter

namespace Mila.Compose
open Mila Mila.Asset

/-- Every string of every spec (name and the 33 optional strings) lies in `D`. -/
def AssetStrsIn (D : Str → Prop) (v : AssetBinary) : Prop :=
  ∀ spec ∈ v.specs, (∀ s, spec.name = some s → D s) ∧ ∀ s, some s ∈ spec.strs → D s

theorem AssetStrsIn.trivial (v : AssetBinary) : AssetStrsIn (fun _ => True) v :=
  fun _ _ => ⟨fun _ _ => True.intro, fun _ _ => True.intro⟩

end Mila.Compose

namespace Mila.Asset
open Mila BinArchive Layered Compose

variable {D : Str → Prop}

theorem fieldCell_length (s : AssetSpec) (i : Nat) (h1 : 1 ≤ i) (h2 : i ≤ 51) :
    (fieldCell s i).length = if present s i then 1 else 0 := by
  by_cases h33 : i ≤ 33
  · rw [present_str s i h1 h33]
    cases hv : strField s i with
    | none => rw [fieldCell_str_none s i h33 hv]; rfl
    | some v => rw [fieldCell_str_some s i h33 v hv]; rfl
  · rw [present_val s i (by omega) h2]
    cases hu : (valField s i).1 with
    | false => rw [fieldCell_val_false s i (by omega) hu]; rfl
    | true =>
      cases hk : kindOf i with
      | str => exact absurd hk (kindOf_ne_str i (by omega))
      | color => rw [fieldCell_color s i hk hu]; rfl
      | f32 | u32 => rw [fieldCell_word s i (by simp [hk]) hu]; rfl

theorem fieldsCells_length (s : AssetSpec) :
    ∀ (is : List Nat), (∀ i ∈ is, 1 ≤ i ∧ i ≤ 51) →
      (fieldsCells s is).length = is.countP (present s) := by
  intro is
  induction is with
  | nil => intro _; rfl
  | cons i is ih =>
    intro h
    obtain ⟨h1, h2⟩ := h i (by simp)
    rw [fieldsCells_cons, List.length_append, ih (fun j hj => h j (by simp [hj])), fieldCell_length s i h1 h2,
      List.countP_cons]
    omega

/-- The size `compute_flags` announces is exactly the record's cells. -/
theorem recordCells_size (s : AssetSpec) : (computeFlags s).2 = 4 * (recordCells s).length := by
  rw [computeFlags_eq]
  simp only
  rw [countedBits_eq]
  unfold recordCells
  have hf := flagCells_length s
  have h1 := fieldsCells_length s (List.range' 1 31) (fun i hi => by have := List.mem_range'_1.1 hi; omega)
  have h2 := fieldsCells_length s (List.range' 32 20) (fun i hi => by have := List.mem_range'_1.1 hi; omega)
  by_cases hl : isLong s
  · simp only [hl, if_true, List.length_append, List.length_cons, List.length_nil, h1, h2]; omega
  · simp only [hl, if_false, List.length_append, List.length_cons, List.length_nil, h1]; omega

theorem extended_eq (s : AssetSpec) (h : SpecWF s) :
    Spec.Asset.extended s.strs s.vals = decide (isLong s) := by
  rw [Bool.eq_iff_iff, decide_eq_true_iff, Iff.comm]
  have hs : s.strs.drop 31 = [strField s 32, strField s 33] := by rw [strs_as_map s h.1]; rfl
  have h32 := present_str s 32 (by omega) (by omega)
  have h33 := present_str s 33 (by omega) (by omega)
  unfold Spec.Asset.extended
  rw [isLong_iff, hs]
  conv => rhs; rw [vals_as_map s h.2.1]
  simp only [List.any_map, List.any_cons, List.any_nil, Bool.or_false, Bool.or_eq_true, ← h32, ← h33,
    List.any_eq_true, Function.comp]
  constructor
  · intro ⟨i, h1, h2, hp⟩
    rcases (by omega : i = 32 ∨ i = 33 ∨ 34 ≤ i) with rfl | rfl | h34
    · exact Or.inl (Or.inl hp)
    · exact Or.inl (Or.inr hp)
    · rw [present_val s i h34 h2] at hp
      exact Or.inr ⟨i, List.mem_range'_1.2 ⟨h34, by omega⟩, hp⟩
  · intro hor
    rcases hor with (hp | hp) | ⟨i, hi, hp⟩
    · exact ⟨32, by omega, by omega, hp⟩
    · exact ⟨33, by omega, by omega, hp⟩
    · have := List.mem_range'_1.1 hi
      exact ⟨i, by omega, by omega, by rw [present_val s i (by omega) (by omega)]; exact hp⟩

theorem marked_final (s : AssetSpec) : Spec.Asset.marked (finalFlags s) = decide (isLong s) := by
  unfold Spec.Asset.marked Spec.Asset.flagAt
  rw [Nat.zero_div, Nat.zero_mod, Nat.testBit_zero, ← Nat.and_one_is_mod]
  exact decide_eq_decide.2 (marker_final s)

theorem countBits_eq_popcount8 (x : Nat) : countBits x = Spec.Asset.popcount8 x := by
  unfold countBits Spec.Asset.popcount8
  apply List.countP_congr
  intro i _
  rw [and_shift_ne_zero]

theorem popcount8_or_one (x : Nat) (h : x.testBit 0 = false) :
    Spec.Asset.popcount8 (x ||| 1) = Spec.Asset.popcount8 x + 1 := by
  unfold Spec.Asset.popcount8
  rw [show List.range 8 = 0 :: List.range' 1 7 from by decide, List.countP_cons, List.countP_cons]
  have : (List.range' 1 7).countP (fun i => (x ||| 1).testBit i) = (List.range' 1 7).countP (fun i => x.testBit i) := by
    apply List.countP_congr
    intro i hi
    have : 1 ≤ i := (List.mem_range'_1.1 hi).1
    rw [Nat.testBit_or, testBit_one]
    have : ¬ i = 0 := by omega
    simp [this]
  rw [this, Nat.testBit_or, testBit_one, h]
  simp

theorem announced_eq (s : AssetSpec) :
    Spec.Asset.announcedLen (finalFlags s) = (computeFlags s).2 := by
  rw [computeFlags_eq]
  simp only
  unfold Spec.Asset.announcedLen Spec.Asset.announcedFields
  rw [marked_final]
  have h0 : (flagByte s 0).testBit 0 = false := by rw [testBit_flagByte]; simp [present_zero]
  unfold countedBits
  by_cases hl : isLong s
  · simp only [decide_true, if_true, hl]
    simp only [finalFlags, hl, if_true, List.map_cons, List.map_nil, List.sum_cons, List.sum_nil,
      popcount8_or_one _ h0, countBits_eq_popcount8]
    omega
  · simp only [decide_false, Bool.false_eq_true, if_false, hl]
    simp only [finalFlags, hl, if_false, List.map_cons, List.map_nil, List.sum_cons, List.sum_nil,
      countBits_eq_popcount8]
    omega

theorem presentCount_eq (s : AssetSpec) (h : SpecWF s) :
    Spec.Asset.presentCount s.strs s.vals
      = (List.range' 1 31).countP (present s)
        + (if isLong s then (List.range' 32 20).countP (present s) else 0) := by
  unfold Spec.Asset.presentCount
  have e1 : s.strs.countP (·.isSome) = (List.range' 1 33).countP (present s) := by
    conv => lhs; rw [strs_as_map s h.1]
    rw [List.countP_map]
    apply List.countP_congr
    intro i hi
    have := List.mem_range'_1.1 hi
    rw [present_str s i (by omega) (by omega)]
    rfl
  have e2 : s.vals.countP (·.1) = (List.range' 34 18).countP (present s) := by
    conv => lhs; rw [vals_as_map s h.2.1]
    rw [List.countP_map]
    apply List.countP_congr
    intro i hi
    have := List.mem_range'_1.1 hi
    rw [present_val s i (by omega) (by omega)]
    rfl
  rw [e1, e2, ← List.countP_append,
    show List.range' 1 33 ++ List.range' 34 18 = List.range' 1 31 ++ List.range' 32 20 from by decide,
    List.countP_append]
  by_cases hl : isLong s
  · rw [if_pos hl]
  · have z : (List.range' 32 20).countP (present s) = 0 := by
      rw [List.countP_eq_zero]
      intro i hi
      have := List.mem_range'_1.1 hi
      simp [present_of_short s hl i (by omega)]
    rw [if_neg hl, z]

theorem flagBytes_eq (s : AssetSpec) (h : SpecWF s) :
    Spec.Asset.flagBytes s.strs s.vals = (finalFlags s).length := by
  unfold Spec.Asset.flagBytes
  rw [finalFlags_length, extended_eq s h]
  by_cases hl : isLong s <;> simp [hl]

theorem size_eq_recordLen (s : AssetSpec) (h : SpecWF s) :
    (computeFlags s).2 = Spec.Asset.recordLen s.strs s.vals := by
  unfold Spec.Asset.recordLen
  rw [presentCount_eq s h, flagBytes_eq s h, computeFlags_eq, countedBits_eq]

theorem writeBytesR_patch (a : BinArchive) (pos : Nat) (v : Bytes) (h : pos + v.length ≤ a.size) :
    writeBytesR ⟨a, pos⟩ v = .ok ⟨{ a with data := patch a.data pos v }, pos + v.length⟩ := by
  unfold writeBytesR
  rw [writeBytes_patch a v pos h]

theorem writes_bytes4 (v : Bytes) (hv : v.length = 4) : Writes D (fun w => writeBytesR w v) [.raw v] := by
  intro a pos cs h hfit
  have hfit' : pos + v.length ≤ a.size := by rw [hv]; exact hfit
  have hsize := length_patch a.data pos v hfit'
  refine ⟨{ a with data := patch a.data pos v }, ?_, h.patch4 hfit v hv, hsize, rfl,
    fun t => t.withData _ (Nat.le_of_eq hsize.symm)⟩
  show writeBytesR ⟨a, pos⟩ v = _
  rw [writeBytesR_patch a pos v hfit', hv]; rfl

theorem writes_bytes8 (v1 v2 : Bytes) (h1 : v1.length = 4) (h2 : v2.length = 4) :
    Writes D (fun w => writeBytesR w (v1 ++ v2)) [.raw v1, .raw v2] := by
  intro a pos cs h hfit
  have hfit8 : pos + (4 + 4) ≤ a.size := hfit
  have hlen : (v1 ++ v2).length = 4 + 4 := by rw [List.length_append, h1, h2]
  have hfit' : pos + (v1 ++ v2).length ≤ a.size := by rw [hlen]; exact hfit8
  have hsize := length_patch a.data pos (v1 ++ v2) hfit'
  have hA := h.patch4 (by omega) v1 h1
  have hsA : ({ a with data := patch a.data pos v1 } : BinArchive).size = a.size :=
    length_patch _ _ _ (by rw [h1]; show pos + 4 ≤ a.size; omega)
  have hB := hA.patch4 (by rw [hsA]; omega) v2 h2
  refine ⟨{ a with data := patch a.data pos (v1 ++ v2) }, ?_, ?_, hsize, rfl,
    fun t => t.withData _ (Nat.le_of_eq hsize.symm)⟩
  · show writeBytesR ⟨a, pos⟩ (v1 ++ v2) = _
    rw [writeBytesR_patch a pos _ hfit', hlen]; rfl
  · rw [patch_append _ _ _ _ (by rw [h1, h2]; exact hfit8), h1]
    simpa using hB

theorem length_bytesOf (fl : List Nat) : (bytesOf fl).length = fl.length := by simp [bytesOf]

theorem writes_flags (s : AssetSpec) :
    Writes D (fun w => writeBytesR w (bytesOf (finalFlags s))) (flagCells s) := by
  have hlen := finalFlags_length s
  unfold flagCells
  by_cases hl : isLong s
  · simp only [hl, if_true] at hlen ⊢
    have e : bytesOf (finalFlags s) = bytesOf ((finalFlags s).take 4) ++ bytesOf ((finalFlags s).drop 4) := by
      simp only [bytesOf, ← List.map_append, List.take_append_drop]
    rw [e]
    exact writes_bytes8 _ _ (by rw [length_bytesOf]; simp; omega) (by rw [length_bytesOf]; simp; omega)
  · simp only [hl, if_false] at hlen ⊢
    exact writes_bytes4 _ (by rw [length_bytesOf, hlen])

theorem strField_mem {s : AssetSpec} {i : Nat} {v : Str} (h : strField s i = some v) :
    some v ∈ s.strs :=
  List.mem_of_getElem? (Option.join_eq_some_iff.1 h)

theorem writeField_layout (s : AssetSpec) (hwf : SpecWF s) (hs : ∀ v, some v ∈ s.strs → D v)
    (i : Nat) : Writes D (fun w => writeField s w i) (fieldCell s i) := by
  have hlen : (swap02 (valField s i).2).length = 4 := by
    rw [swap02_length]; exact valField_length s hwf i
  unfold writeField fieldCell writeFlagStr writeColor
  cases kindOf i with
  | str =>
    cases hv : strField s i with
    | none => exact Writes.nil
    | some v => exact writes_string (some v) fun u e => by cases e; exact hs v (strField_mem hv)
  | color =>
    cases (valField s i).1 with
    | false => exact Writes.nil
    | true => exact writes_bytes4 _ hlen
  | f32 | u32 =>
    cases (valField s i).1 with
    | false => exact Writes.nil
    | true => exact writes_u32 _

theorem writeFields_layout (s : AssetSpec) (hwf : SpecWF s) (hs : ∀ v, some v ∈ s.strs → D v) :
    ∀ (is : List Nat), Writes D (writeFields s is) (fieldsCells s is) := by
  intro is
  induction is with
  | nil => exact Writes.nil
  | cons i is ih =>
    rw [fieldsCells_cons]
    exact (writeField_layout s hwf hs i).seq ih

theorem append_layout (s : AssetSpec) (hwf : SpecWF s) (hn : ∀ v, s.name = some v → D v)
    (hs : ∀ v, some v ∈ s.strs → D v) (a : BinArchive) (cs : List Cell) (h : WInv a a.size cs) :
    ∃ a', append s a = .ok a' ∧ WInv a' a'.size (cs ++ recordCells s)
      ∧ a'.size = a.size + 4 * (recordCells s).length ∧ (Tidy D a → Tidy D a') := by
  have hfl : (computeFlags s).1 = finalFlags s := by rw [computeFlags_eq]
  have hflen := finalFlags_length s
  unfold append
  simp only
  rw [hfl, recordCells_size s, show List.map UInt8.ofNat (finalFlags s) = bytesOf (finalFlags s) from rfl]
  have hs0 := size_allocateAtEnd a (4 * (recordCells s).length)
  have h0 := h.allocateAtEnd (4 * (recordCells s).length)
  have ht0 : Tidy D a → Tidy D (a.allocateAtEnd (4 * (recordCells s).length)) :=
    fun t => t.allocateAtEnd _
  generalize a.allocateAtEnd (4 * (recordCells s).length) = a0 at hs0 h0 ht0 ⊢
  unfold recordCells at hs0 ⊢
  simp only [List.length_append, List.length_cons, List.length_nil] at hs0
  -- flags, name and fields 1..31 are written in either form
  obtain ⟨a1, hw1, hi1, hs1, _, ht1⟩ := writes_flags (D := D) s a0 _ _ h0 (by omega)
  obtain ⟨a2, hw2, hi2, hs2, _, ht2⟩ := writes_string s.name hn a1 _ _ hi1
    (by rw [hs1]; simp only [List.length_cons, List.length_nil]; omega)
  obtain ⟨a3, hw3, hi3, hs3, _, ht3⟩ := writeFields_layout s hwf hs (List.range' 1 31) a2 _ _ hi2
    (by rw [hs2, hs1]; simp only [List.length_cons, List.length_nil]; omega)
  dsimp only at hw1 hw2 hw3
  simp only [hw1, hw2, hw3]
  have tail : Writes D (fun w => if isLong s then writeFields s (List.range' 32 20) w else .ok w)
      (if isLong s then fieldsCells s (List.range' 32 20) else []) := by
    split
    · exact writeFields_layout s hwf hs _
    · exact Writes.nil
  obtain ⟨a4, hw4, hi4, hs4, _, ht4⟩ := tail a3 _ _ hi3
    (by rw [hs3, hs2, hs1]; simp only [List.length_cons, List.length_nil]; omega)
  have hsz : a4.size = a0.size := by rw [hs4, hs3, hs2, hs1]
  refine ⟨a4, ?_, hi4.cast (by rw [hsz]; simp only [List.length_cons, List.length_nil]; omega)
      (by simp only [List.append_assoc]),
    by rw [hsz]; simp only [List.length_append, List.length_cons, List.length_nil]; omega,
    fun t => ht4 (ht3 (ht2 (ht1 (ht0 t))))⟩
  dsimp only at hw4
  by_cases hl : isLong s
  · rw [if_pos hl] at hflen hw4
    rw [if_pos (by omega), hw4]
  · simp only [hl, if_false, Res.ok.injEq, Writer.mk.injEq] at hflen hw4
    rw [if_neg (by omega), hw4.1]

theorem appendAll_layout :
    ∀ (specs : List AssetSpec), (∀ s ∈ specs, SpecWF s) →
      (∀ s ∈ specs, (∀ v, s.name = some v → D v) ∧ ∀ v, some v ∈ s.strs → D v) →
      ∀ (a : BinArchive) (cs : List Cell), WInv a a.size cs →
      ∃ a', appendAll specs a = .ok a' ∧ WInv a' a'.size (cs ++ specsCells specs)
        ∧ a'.size = a.size + 4 * (specsCells specs).length ∧ (Tidy D a → Tidy D a') := by
  intro specs
  induction specs with
  | nil => intro _ _ a cs h; exact ⟨a, rfl, by simpa [specsCells] using h, by simp [specsCells], id⟩
  | cons s rest ih =>
    intro hwf hD a cs h
    obtain ⟨a1, hw1, hi1, hs1, ht1⟩ :=
      append_layout s (hwf s (by simp)) (hD s (by simp)).1 (hD s (by simp)).2 a cs h
    obtain ⟨a', hw', hi', hs', ht'⟩ :=
      ih (fun t ht => hwf t (by simp [ht])) (fun t ht => hD t (by simp [ht])) a1 _ hi1
    unfold appendAll
    rw [hw1]
    simp only
    refine ⟨a', hw', by simpa [specsCells] using hi', ?_, ht' ∘ ht1⟩
    rw [hs', hs1]; simp only [specsCells, List.flatMap_cons, List.length_append]; omega

/-- **Writer correctness**: `serialize` builds an archive with the layout of `v`, tidy when the
specs' strings are in `D`. -/
theorem build_layout (v : AssetBinary) (hwf : ∀ s ∈ v.specs, SpecWF s)
    (hsmall : 4 * (fileCells v).length < 2 ^ 64) (hD : AssetStrsIn D v) :
    ∃ a, build v = .ok a ∧ Layout v a ∧ Plain a ∧ Tidy D a := by
  have h0 : WInv ((BinArchive.new .little).allocateAtEnd 4) 0 [] :=
    ⟨rfl, Nat.zero_le _, rfl, trivial, fun _ _ => rfl, fun x hx => absurd rfl hx, rfl⟩
  have hs0 : ((BinArchive.new .little).allocateAtEnd 4).size = 4 := by
    rw [size_allocateAtEnd]; rfl
  obtain ⟨a1, hw1, hi1, hs1, _, ht1⟩ := writes_u32 (D := D) v.flags _ 0 [] h0 (by rw [hs0]; simp)
  have hw1' : ((BinArchive.new .little).allocateAtEnd 4).writeUInt 0 4 v.flags = .ok a1 := Writer.step_ok hw1
  have hi1' : WInv a1 a1.size ([] ++ [Cell.raw (leBytes 4 v.flags)]) := hi1.cast (by rw [hs1, hs0]; rfl) rfl
  obtain ⟨a2, hw2, hi2, hs2, ht2⟩ := appendAll_layout v.specs hwf hD a1 _ hi1'
  have hi3 := hi2.allocateAtEnd 4
  have hs3 : (a2.allocateAtEnd 4).size = a2.size + 4 := size_allocateAtEnd a2 4
  have hsz : (a2.allocateAtEnd 4).size = 4 * (fileCells v).length := by
    have := hi2.pos_eq
    rw [hs3, this]
    simp only [fileCells, List.length_append, List.length_cons, List.length_nil]
    omega
  refine ⟨a2.allocateAtEnd 4, ?_, ⟨hi3.little, hsz, by rw [hsz]; exact hsmall, ?_⟩, hi3.plain,
    (ht2 (ht1 ((tidy_new _).allocateAtEnd 4))).allocateAtEnd 4⟩
  · simp only [build, hw1', hw2]
  · have hc : fileCells v = ([] ++ [Cell.raw (leBytes 4 v.flags)] ++ specsCells v.specs) ++ [Cell.raw zero4] := by
      simp [fileCells]
    rw [hc, cellsAt_append]
    refine ⟨hi3.cells, ?_⟩
    rw [← hi2.pos_eq, Nat.zero_add]
    refine ⟨⟨by rw [hs3]; omega, ?_, hi3.fresh _ (Nat.le_refl _)⟩, trivial⟩
    show slice (a2.data ++ List.replicate 4 0) a2.size 4 = zero4
    exact slice_append_right a2.data (List.replicate 4 0)

theorem fileCells_size (v : AssetBinary) (hw : ∀ s ∈ v.specs, SpecWF s) :
    4 * (fileCells v).length = Spec.Asset.dataSize (v.specs.map (fun s => (s.strs, s.vals))) := by
  unfold Spec.Asset.dataSize
  simp only [fileCells, List.length_append, List.length_cons, List.length_nil, List.map_map]
  have : 4 * (specsCells v.specs).length
      = (v.specs.map ((fun s => Spec.Asset.recordLen s.1 s.2) ∘ fun s => (s.strs, s.vals))).sum := by
    generalize v.specs = specs at hw
    induction specs with
    | nil => rfl
    | cons s rest ih =>
      simp only [specsCells, List.flatMap_cons, List.length_append, List.map_cons, List.sum_cons,
        Function.comp] at ih ⊢
      rw [← ih (fun t ht => hw t (by simp [ht]))]
      have hs := hw s (by simp)
      have e : 4 * (recordCells s).length = Spec.Asset.recordLen s.strs s.vals := by
        rw [← recordCells_size, size_eq_recordLen s hs]
      omega
  omega

theorem normVal_fst (t : Bool × Bytes) : (normVal t).1 = t.1 := by
  unfold normVal; by_cases h : t.1 = true <;> simp [h]

theorem valField_normalize (s : AssetSpec) (i : Nat) :
    valField (normalize s) i = normVal (valField s i) := by
  unfold valField normalize
  simp only [normalizeVals_eq]
  rw [List.getD_eq_getElem?_getD, List.getD_eq_getElem?_getD, List.getElem?_map]
  cases s.vals[i - 34]? with
  | none => simp [normVal]
  | some t => simp

theorem present_normalize (s : AssetSpec) : present (normalize s) = present s := by
  funext i
  unfold present
  have : strField (normalize s) i = strField s i := rfl
  rw [this, valField_normalize, normVal_fst]

theorem computeFlags_normalize (s : AssetSpec) : computeFlags (normalize s) = computeFlags s := by
  have hb : flagByte (normalize s) = flagByte s := by
    funext b; unfold flagByte; rw [present_normalize]
  unfold computeFlags
  rw [hb]

theorem writeField_normalize (s : AssetSpec) (w : Writer) (i : Nat) :
    writeField (normalize s) w i = writeField s w i := by
  unfold writeField
  have hstr : strField (normalize s) i = strField s i := rfl
  rw [hstr, valField_normalize]
  -- a field in use is kept as it is, the value of an unused one is never looked at
  cases hu : (valField s i).1 with
  | false => simp [normVal, hu]
  | true => simp [normVal, hu]

theorem writeFields_normalize (s : AssetSpec) :
    ∀ (is : List Nat) (w : Writer), writeFields (normalize s) is w = writeFields s is w := by
  intro is
  induction is with
  | nil => intro w; rfl
  | cons i is ih =>
    intro w
    unfold writeFields
    rw [writeField_normalize]
    cases writeField s w i with
    | ok w1 => exact ih w1
    | err e => rfl
    | panic => rfl

theorem append_normalize (s : AssetSpec) (a : BinArchive) :
    append (normalize s) a = append s a := by
  unfold append
  have hn : (normalize s).name = s.name := rfl
  simp only [computeFlags_normalize, writeFields_normalize, hn]

theorem appendAll_normalize :
    ∀ (specs : List AssetSpec) (a : BinArchive),
      appendAll (specs.map normalize) a = appendAll specs a := by
  intro specs
  induction specs with
  | nil => intro a; rfl
  | cons s rest ih =>
    intro a
    simp only [List.map_cons, appendAll, append_normalize]
    cases append s a with
    | ok a1 => exact ih a1
    | err e => rfl
    | panic => rfl

end Mila.Asset
