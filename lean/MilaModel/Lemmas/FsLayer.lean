/- One layer as a finite map (C12): what `get` returns, and which entries there are, after `set`,
`create_dir_all`, `write` and `create_dir`. -/
import MilaModel.Model.LayeredFs

namespace Mila.LayeredFs

theorem mem_prefixes {c x : Comps} : x ∈ prefixes c ↔ x ≠ [] ∧ x <+: c := by
  simp only [prefixes, List.mem_map, List.mem_range]
  constructor
  · rintro ⟨i, hi, rfl⟩
    refine ⟨fun h => ?_, List.take_prefix _ _⟩
    rcases List.take_eq_nil_iff.mp h with h0 | rfl
    · omega
    · simp at hi
  · rintro ⟨hne, hp⟩
    have hpos : 0 < x.length := List.length_pos_iff.mpr hne
    refine ⟨x.length - 1, by have := hp.length_le; omega, ?_⟩
    rw [Nat.sub_add_cancel hpos]
    exact (List.prefix_iff_eq_take.mp hp).symm

theorem prefixes_ne_nil {c x : Comps} (h : x ∈ prefixes c) : x ≠ [] := (mem_prefixes.mp h).1

/-- `x` is a non-empty proper prefix of `c` (an ancestor directory below the layer root). -/
def IsAncestor (x c : Comps) : Prop := x ≠ [] ∧ x <+: c ∧ x.length < c.length

theorem mem_prefixes_dropLast {c x : Comps} : x ∈ prefixes c.dropLast ↔ IsAncestor x c := by
  rw [mem_prefixes, List.dropLast_eq_take, List.prefix_take_iff]
  refine and_congr_right fun hne => and_congr_right fun _ => ?_
  have hpos : 0 < x.length := List.length_pos_iff.mpr hne
  omega

namespace Layer

@[simp] theorem get_root (l : Layer) : l.get [] = some .dir := by simp [get]

theorem get_cons (e : Comps × Node) (l : Layer) (x : Comps) (hx : x ≠ []) :
    get (e :: l) x = if e.1 = x then some e.2 else get l x := by
  unfold get
  simp only [hx, if_false, List.find?_cons]
  by_cases h : e.1 = x <;> simp [h]

theorem get_set (l : Layer) (c x : Comps) (n : Node) (hc : c ≠ []) :
    (l.set c n).get x = if x = c then some n else l.get x := by
  by_cases hx : x = []
  · subst hx; simp [hc.symm]
  · induction l with
    | nil => simp [set, get_cons, hx, eq_comm]
    | cons e rest ih =>
      unfold set
      by_cases he : e.1 = c
      · subst he
        rw [if_pos rfl, get_cons _ _ _ hx, get_cons _ _ _ hx]
        by_cases hxe : e.1 = x
        · simp [hxe]
        · simp [hxe, Ne.symm hxe]
      · rw [if_neg he, get_cons _ _ _ hx, get_cons _ _ _ hx, ih]
        by_cases hex : e.1 = x
        · simp [hex, hex ▸ he]
        · simp [hex]

theorem get_mkStep (l : Layer) (q x : Comps) (hq : q ≠ []) :
    (l.mkStep q).get x = if x = q ∧ l.get q = none then some .dir else l.get x := by
  unfold mkStep
  cases hg : l.get q with
  | none => simp [get_set l q x .dir hq]
  | some n => simp

theorem get_foldl_mkStep (qs : List Comps) (hq : ∀ q ∈ qs, q ≠ []) (l : Layer) (x : Comps) :
    (qs.foldl mkStep l).get x = if x ∈ qs ∧ l.get x = none then some .dir else l.get x := by
  induction qs generalizing l with
  | nil => simp
  | cons q qs ih =>
    have hq0 : q ≠ [] := hq q (by simp)
    rw [List.foldl_cons, ih (fun r hr => hq r (by simp [hr])), get_mkStep l q x hq0]
    by_cases hxq : x = q
    · subst hxq
      cases hg : l.get x <;> simp
    · simp [hxq]

theorem mkdirAll_cases (l : Layer) (c : Comps) :
    (l.mkdirAll c = (l, .err .Io) ∧ ∃ q ∈ prefixes c, isFileNode (l.get q) = true) ∨
    ((l.mkdirAll c).2 = .ok () ∧ (∀ q ∈ prefixes c, isFileNode (l.get q) = false) ∧
      ∀ x, (l.mkdirAll c).1.get x = if x ∈ prefixes c ∧ l.get x = none then some .dir else l.get x) := by
  unfold mkdirAll
  split
  · rename_i h
    exact Or.inl ⟨rfl, by simpa using h⟩
  · rename_i h
    refine Or.inr ⟨rfl, fun q hq => ?_, get_foldl_mkStep (prefixes c) (fun q hq => prefixes_ne_nil hq) l⟩
    exact Bool.eq_false_iff.mpr fun hf => h (List.any_eq_true.mpr ⟨q, hq, hf⟩)

theorem mkdirAll_get (l : Layer) (c x : Comps) :
    (l.mkdirAll c).1.get x = l.get x ∨
    (l.get x = none ∧ (l.mkdirAll c).1.get x = some .dir ∧ x ∈ prefixes c) := by
  rcases mkdirAll_cases l c with ⟨he, _⟩ | ⟨_, _, hget⟩
  · rw [he]; exact Or.inl rfl
  · rw [hget x]
    split
    · rename_i hx
      exact Or.inr ⟨hx.2, rfl, hx.1⟩
    · exact Or.inl rfl

/-- `write` with its three rejections (`create_dir_all` failed; no file position; a directory is
in the way) folded into one condition; `i` and `m` name the parsed path and the `create_dir_all`
result. -/
theorem write_eq (l : Layer) (p b : Bytes) {i : PathInfo} {m : Layer × Res Unit}
    (hi : parsePath p = i) (hm : l.mkdirAll i.comps.dropLast = m) :
    l.write p b =
      if m.2 = .ok () ∧ i.comps ≠ [] ∧ i.mustDir = false ∧ m.1.get i.comps ≠ some .dir
      then (m.1.set i.comps (.file b), .ok ()) else (m.1, .err .Io) := by
  subst hi hm
  unfold write
  simp only []
  generalize parsePath p = i
  generalize l.mkdirAll i.comps.dropLast = m
  obtain ⟨l1, r1⟩ := m
  rcases r1 with ⟨⟨⟩⟩ | e | _
  · cases hmd : i.mustDir <;> cases hg : l1.get i.comps with
    | none => simp [hg]
    | some n => cases n <;> simp [hg]
  · simp
  · simp

theorem write_get (l : Layer) (p b : Bytes) (x : Comps) :
    ((l.write p b).2 = .ok () ∧ x = (parsePath p).comps ∧ (l.write p b).1.get x = some (.file b)) ∨
    (l.write p b).1.get x = l.get x ∨
    (l.get x = none ∧ (l.write p b).1.get x = some .dir ∧ x ∈ prefixes (parsePath p).comps.dropLast) := by
  generalize hi : parsePath p = i
  have hmid := mkdirAll_get l i.comps.dropLast x
  generalize hm : l.mkdirAll i.comps.dropLast = m at hmid
  rw [write_eq l p b hi hm]
  split
  · rename_i hc
    rw [get_set _ _ _ _ hc.2.1]
    by_cases hxc : x = i.comps
    · exact Or.inl ⟨rfl, hxc, if_pos hxc⟩
    · rw [if_neg hxc]; exact Or.inr hmid
  · exact Or.inr hmid

theorem write_ok (l : Layer) (p b : Bytes) (h : (l.write p b).2 = .ok ()) :
    (parsePath p).comps ≠ [] ∧ (parsePath p).mustDir = false ∧
    (l.write p b).1.get (parsePath p).comps = some (.file b) := by
  generalize hi : parsePath p = i
  generalize hm : l.mkdirAll i.comps.dropLast = m
  rw [write_eq l p b hi hm] at h ⊢
  split at h
  · rename_i hc
    rw [if_pos hc, get_set _ _ _ _ hc.2.1]
    exact ⟨hc.2.1, hc.2.2.1, if_pos rfl⟩
  · cases h

theorem stat_after_write (l : Layer) (p b : Bytes) (h : (l.write p b).2 = .ok ()) :
    (l.write p b).1.stat p = some (.file b) := by
  obtain ⟨_, hmd, hg⟩ := write_ok l p b h
  simp [stat, hg, hmd]

theorem write_ok_iff (l : Layer) (p b : Bytes) :
    (l.write p b).2 = .ok () ↔
      (∀ x ∈ prefixes (parsePath p).comps.dropLast, isFileNode (l.get x) = false) ∧
      (parsePath p).comps ≠ [] ∧ (parsePath p).mustDir = false ∧ l.get (parsePath p).comps ≠ some .dir := by
  generalize hi : parsePath p = i
  rcases mkdirAll_cases l i.comps.dropLast with ⟨he, q, hq, hqf⟩ | ⟨hok, hnf, hget⟩
  · rw [write_eq l p b hi he]
    simp only [reduceCtorEq, false_and, if_false, false_iff]
    intro ⟨h1, _⟩
    rw [h1 q hq] at hqf; cases hqf
  · have hself := hget i.comps
    rw [if_neg fun h => Nat.lt_irrefl _ (mem_prefixes_dropLast.mp h.1).2.2] at hself
    generalize hm : l.mkdirAll i.comps.dropLast = m at hok hself
    rw [write_eq l p b hi hm, hself]
    split <;> rename_i hc
    · exact ⟨fun _ => ⟨hnf, hc.2⟩, fun _ => rfl⟩
    · exact ⟨fun h => (by cases h), fun h => absurd ⟨hok, h.2⟩ hc⟩

theorem createDir_ok_iff (l : Layer) (p : Bytes) :
    (l.createDir p).2 = .ok () ↔ ∀ x ∈ prefixes (parsePath p).comps, isFileNode (l.get x) = false := by
  unfold createDir
  rcases mkdirAll_cases l (parsePath p).comps with ⟨he, q, hq, hqf⟩ | ⟨hok, hnf, _⟩
  · rw [he]
    simp only [reduceCtorEq, false_iff]
    intro h1
    rw [h1 q hq] at hqf; cases hqf
  · simp [hok]; exact hnf

theorem mem_set (l : Layer) (c : Comps) (n : Node) (e : Comps × Node) (h : e ∈ l.set c n) :
    e ∈ l ∨ e = (c, n) := by
  induction l with
  | nil => exact Or.inr (List.mem_singleton.mp h)
  | cons x rest ih =>
    unfold set at h
    split at h
    · exact (List.mem_cons.mp h).elim Or.inr fun h => Or.inl (List.mem_cons_of_mem _ h)
    · rcases List.mem_cons.mp h with rfl | h
      · exact Or.inl List.mem_cons_self
      · exact (ih h).imp_left (List.mem_cons_of_mem _)

theorem mem_foldl_mkStep (qs : List Comps) (l : Layer) (e : Comps × Node) (h : e ∈ qs.foldl mkStep l) :
    e ∈ l ∨ e.1 ∈ qs := by
  induction qs generalizing l with
  | nil => exact Or.inl h
  | cons q qs ih =>
    rcases ih (l.mkStep q) h with h' | h'
    · unfold mkStep at h'
      split at h'
      · exact (mem_set l q .dir e h').imp_right fun h'' => by simp [h'']
      · exact Or.inl h'
    · exact Or.inr (List.mem_cons_of_mem _ h')

theorem mem_mkdirAll (l : Layer) (c : Comps) (e : Comps × Node) (h : e ∈ (l.mkdirAll c).1) :
    e ∈ l ∨ e.1 ∈ prefixes c := by
  unfold mkdirAll at h
  split at h
  · exact Or.inl h
  · exact mem_foldl_mkStep _ l e h

theorem mem_write (l : Layer) (p b : Bytes) (e : Comps × Node) (h : e ∈ (l.write p b).1) :
    e ∈ l ∨ (e.1 ≠ [] ∧ e.1 <+: (parsePath p).comps) := by
  generalize hi : parsePath p = i at h ⊢
  have hpre : ∀ x ∈ (l.mkdirAll i.comps.dropLast).1, x ∈ l ∨ (x.1 ≠ [] ∧ x.1 <+: i.comps) := by
    intro x hx
    refine (mem_mkdirAll l _ x hx).imp_right fun h1 => ?_
    obtain ⟨h2, h3, _⟩ := mem_prefixes_dropLast.mp h1
    exact ⟨h2, h3⟩
  generalize hm : l.mkdirAll i.comps.dropLast = m at hpre
  rw [write_eq l p b hi hm] at h
  split at h
  · rename_i hc
    rcases mem_set _ _ _ e h with h1 | h1
    · exact hpre e h1
    · exact Or.inr (by simp [h1, hc.2.1])
  · exact hpre e h

theorem mem_createDir (l : Layer) (p : Bytes) (e : Comps × Node) (h : e ∈ (l.createDir p).1) :
    e ∈ l ∨ (e.1 ≠ [] ∧ e.1 <+: (parsePath p).comps) :=
  (mem_mkdirAll l _ e h).imp_right mem_prefixes.mp

end Layer
end Mila.LayeredFs
