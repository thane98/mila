/-
C20, CGFX: a conforming file is read as the packed textures (symbolic execution of `cgfxProg`
against `Spec.Tex.ConformsCgfx`), with the read high-water mark above every payload; a file with
a wrong magic number is rejected.
-/
import MilaModel.Lemmas.TexSpec

namespace Mila.Containers
open Prog
open Spec.Tex (Tex valid3ds u32At hasBytes hasCStr utf8Name ConformsCgfx cgfxTxobAt cgfxPayloadAt allIdx)

/-- A self-relative offset field at `o` (`o < 2 ^ 32`, so `position() as u32` is `o`). -/
theorem selfRel_last (p : Profile) (f : Buf) (o : Nat) (ns : List Bytes) (hi : Nat)
    (h : o + 4 ≤ f.size) (hs : f.size < 2 ^ 32) (hsum : o + f.leN o 4 < 2 ^ 32) :
    run (selfRel p) f ⟨o, ns, hi⟩ = .ok (o + f.leN o 4, ⟨o + 4, ns, max hi (o + 4)⟩) := by
  have : o % 2 ^ 32 = o := Nat.mod_eq_of_lt (by omega)
  exec [selfRel, this]

theorem selfRel_run {α : Type} (p : Profile) (f : Buf) (o : Nat) (ns : List Bytes) (hi : Nat)
    (k : Nat → Prog α) (h : o + 4 ≤ f.size) (hs : f.size < 2 ^ 32) (hsum : o + f.leN o 4 < 2 ^ 32) :
    run (selfRel p >>= k) f ⟨o, ns, hi⟩ = run (k (o + f.leN o 4)) f ⟨o + 4, ns, max hi (o + 4)⟩ :=
  run_bind_ok (selfRel_last p f o ns hi h hs hsum)

/-- What `TXOB::new` returns for the object at `t0`. -/
def txobAt (f : Buf) (t0 : Nat) : Txob :=
  ⟨t0 + 0xC + f.leN (t0 + 0xC) 4, f.leN (t0 + 0x18) 4, f.leN (t0 + 0x1C) 4, f.leN (t0 + 0x34) 4,
    f.leN (t0 + 0x44) 4, t0 + 0x48 + f.leN (t0 + 0x48) 4⟩

theorem cgfxTxob_run (p : Profile) (f : Buf) (t0 : Nat) (s : St) (hsize : f.size < 2 ^ 32)
    (hfit : t0 + 0x4C ≤ f.size) (h1 : Spec.Tex.selfRel f (t0 + 0xC) < 2 ^ 32)
    (h2 : Spec.Tex.selfRel f (t0 + 0x48) < 2 ^ 32) :
    ∃ s', run (cgfxTxob p t0) f s = .ok (txobAt f t0, s') ∧ s'.names = s.names := by
  obtain ⟨o, ns, hi⟩ := s
  simp only [Spec.Tex.selfRel, u32At_eq] at h1 h2
  exec [cgfxTxob, ↓ selfRel_run, txobAt]
  exact ⟨_, rfl, rfl⟩

theorem cgfxTexture_run (p : Profile) (f : Buf) (t0 : Nat) (t : Tex) (s : St)
    (htx : Spec.Tex.cgfxTxob f t0 t = true) (hvalid : valid3ds t = true) (hname : utf8Name t = true) :
    ∃ s', run (cgfxTexture p (txobAt f t0)) f s = .ok ((t.width, t.height, pixelsOf p t), s') ∧
      s'.names = t.name :: s.names ∧ Spec.Tex.selfRel f (t0 + 0x48) + t.payload.size ≤ s'.hi := by
  obtain ⟨o, ns, hi⟩ := s
  simp only [Spec.Tex.cgfxTxob, Spec.Tex.selfRel, Bool.and_eq_true, decide_eq_true_eq, beq_iff_eq,
    u32At_eq, Nat.add_assoc] at htx ⊢
  obtain ⟨⟨⟨⟨⟨⟨⟨⟨_, _⟩, hcstr⟩, hhei⟩, hwid⟩, hfmt⟩, hsize'⟩, _⟩, hbytes⟩ := htx
  obtain ⟨hfit, hext⟩ := hasBytes_spec hbytes
  simp only [Nat.add_assoc] at hext
  obtain ⟨_, hpos, hdec⟩ := valid3ds_decodes p t hvalid
  exec [cgfxTexture, txobAt, hsize', hext, hhei, hwid, hfmt, hdec,
    readName_run hcstr (utf8Name_decodes hname)]
  exact ⟨_, rfl, rfl, by apply Nat.le_max_right⟩

theorem cgfxHeader_run (f : Buf) (h : 0x14 ≤ f.size) (hm : f.leN 0 4 = 0x58464743) :
    ∃ hi, run cgfxHeader f ⟨0, [], 0⟩ = .ok ((), ⟨0x14, [], hi⟩) := by
  exec [cgfxHeader]
  exact ⟨_, rfl⟩

theorem cgfxData_run (p : Profile) (f : Buf) (hi : Nat) (hsize : f.size < 2 ^ 32)
    (h9c : 0x9C ≤ f.size) (hrel : ∀ j, j < 16 → Spec.Tex.selfRel f (0x20 + 8 * j) < 2 ^ 32) :
    ∃ entries s', run (cgfxData p) f ⟨0x14, [], hi⟩ = .ok (entries, s') ∧
      entries.getD 1 0 = Spec.Tex.selfRel f 0x28 ∧ s'.names = [] := by
  simp only [Spec.Tex.selfRel, u32At_eq] at hrel ⊢
  exec [cgfxData]
  obtain ⟨hi', hr⟩ :=
    repeatN_run (do let _entry_count ← u32le; selfRel p) f
      (fun i => 28 + (8 * i + (4 + f.leN (28 + (8 * i + 4)) 4))) 8 0x1C 16 [] (by
        intro i hi hlt
        have := hrel i hlt
        rw [show 32 + 8 * i = 28 + (8 * i + 4) by omega] at this
        exec [↓ selfRel_run, selfRel_last]
        exact ⟨_, rfl⟩) (max (max hi 24) 28)
  refine ⟨_, _, hr, ?_, rfl⟩
  show 28 + (8 * 1 + (4 + f.leN 40 4)) = _
  omega

/-- One round of the loop of `DICT::new`, at any offset `e`. -/
theorem cgfxDictEntry_run (p : Profile) (f : Buf) (e : Nat) (ns : List Bytes) (hi : Nat)
    (hsize : f.size < 2 ^ 32) (hfit : e + 16 ≤ f.size) (h1 : Spec.Tex.selfRel f (e + 8) < 2 ^ 32)
    (h2 : Spec.Tex.selfRel f (e + 12) < 2 ^ 32) :
    ∃ hi', run (do skip 8; let _filename_offset ← selfRel p; selfRel p) f ⟨e, ns, hi⟩ =
      .ok (Spec.Tex.selfRel f (e + 12), ⟨e + 16, ns, hi'⟩) := by
  simp only [Spec.Tex.selfRel, u32At_eq] at h1 h2 ⊢
  exec [↓ selfRel_run, selfRel_last]
  exact ⟨_, rfl⟩

theorem cgfxDict_run (p : Profile) (f : Buf) (dict n : Nat) (ns : List Bytes) (hi : Nat)
    (hsize : f.size < 2 ^ 32) (hfit : dict + 0x1C + 16 * n ≤ f.size) (hcount : f.leN (dict + 8) 4 = n)
    (hrel : ∀ i, i < n → Spec.Tex.selfRel f (dict + 0x1C + 16 * i + 8) < 2 ^ 32 ∧
      Spec.Tex.selfRel f (dict + 0x1C + 16 * i + 12) < 2 ^ 32) :
    ∃ s', run (cgfxDict p) f ⟨dict, ns, hi⟩ =
        .ok ((List.range n).map fun i => Spec.Tex.selfRel f (dict + 0x1C + 16 * i + 12), s') ∧
      s'.names = ns := by
  obtain ⟨hi', hr⟩ := repeatN_run (do skip 8; let _filename_offset ← selfRel p; selfRel p) f
    (fun i => Spec.Tex.selfRel f (dict + 0x1C + 16 * i + 12)) 16 (dict + 0x1C) n ns
    (fun i hi hlt => cgfxDictEntry_run p f _ ns hi hsize (by omega) (hrel i hlt).1 (hrel i hlt).2)
    (max (max (max hi (dict + 4)) (dict + 8)) (dict + 12))
  exec [cgfxDict, hcount, hr]
  exact ⟨_, rfl, rfl⟩

theorem cgfx_full (p : Profile) (f : Buf) (texs : List Spec.Tex.Tex)
    (hc : Spec.Tex.ConformsCgfx f texs = true) :
    ∃ raws sf, run (cgfxProg p) f ⟨0, [], 0⟩ = .ok (raws, sf) ∧
      assemble sf.names.reverse raws = texs.map (unpack p) ∧
      ∀ i t, texs[i]? = some t → Spec.Tex.cgfxPayloadAt f i + t.payload.size ≤ sf.hi := by
  simp only [ConformsCgfx, Bool.and_eq_true, decide_eq_true_eq, beq_iff_eq, List.all_eq_true,
    List.mem_range] at hc
  obtain ⟨⟨⟨⟨hsize, h9c⟩, hmagic⟩, hrel⟩, ⟨hfit, hcount⟩, hall⟩ := hc
  have hent := allIdx_spec _ texs 0 hall
  simp only [Nat.zero_add, Bool.and_eq_true, decide_eq_true_eq] at hent
  rw [u32At_eq] at hmagic hcount
  obtain ⟨hi0, hhdr⟩ := cgfxHeader_run f (by omega) hmagic
  obtain ⟨entries, ⟨o1, ns1, hi1⟩, hdata, he1, hn1⟩ := cgfxData_run p f hi0 hsize h9c hrel
  obtain ⟨⟨o2, ns2, hi2⟩, hdict, hn2⟩ : ∃ s', run (cgfxDict p) f ⟨Spec.Tex.selfRel f 0x28, [], hi1⟩ =
      .ok ((List.range texs.length).map (cgfxTxobAt f), s') ∧ s'.names = [] :=
    cgfxDict_run p f (Spec.Tex.selfRel f 0x28) texs.length [] hi1 hsize hfit hcount
      (fun i hi => (hent i _ (List.getElem?_eq_getElem hi)).1.1.1)
  dsimp only at hn1 hn2
  subst hn1 hn2
  -- two passes over the dictionary: every TXOB header first (no name is logged), then the name and
  -- the payload of each texture
  obtain ⟨s3, htxobs, hn3, _⟩ :=
    mapM'_run (cgfxTxob p) f (fun i => txobAt f (cgfxTxobAt f i)) (fun _ _ => 0)
      ((List.range texs.length).map (cgfxTxobAt f)) (List.range texs.length) (fun _ s => s.names = [])
      ⟨o2, [], hi2⟩ (List.length_map _) rfl (by
        intro i a j s hi hj hs
        rw [eq_of_map_range hi]
        obtain ⟨hil, rfl⟩ := eq_of_range hj
        obtain ⟨⟨⟨⟨_, hb⟩, htx⟩, _⟩, _⟩ := hent i _ (List.getElem?_eq_getElem hil)
        simp only [Spec.Tex.cgfxTxob, Bool.and_eq_true, decide_eq_true_eq] at htx
        obtain ⟨⟨⟨⟨⟨⟨⟨⟨hfitT, h1⟩, _⟩, _⟩, _⟩, _⟩, _⟩, h2⟩, _⟩ := htx
        obtain ⟨s', hr, hn⟩ := cgfxTxob_run p f (cgfxTxobAt f i) s hsize hfitT h1 h2
        exact ⟨s', hr, hn.trans hs, Nat.zero_le _⟩)
  obtain ⟨raws, sf, hraws, hasm, hH⟩ :=
    textures_run p (cgfxTexture p) f (fun i t => cgfxPayloadAt f i + t.payload.size)
      ((List.range texs.length).map fun i => txobAt f (cgfxTxobAt f i)) texs s3 hn3
      (by rw [List.length_map, List.length_range]) (by
        intro i x t s hi ht
        obtain ⟨⟨⟨_, htx⟩, hvalid⟩, hname⟩ := hent i t ht
        rw [eq_of_map_range hi]
        exact cgfxTexture_run p f (cgfxTxobAt f i) t s htx hvalid hname)
  refine ⟨raws, sf, ?_, hasm, hH⟩
  exec [cgfxProg, run_bind_ok hhdr, run_bind_ok hdata, he1, run_bind_ok hdict, run_bind_ok htxobs, hraws]

theorem cgfx_bad_magic (p : Profile) (f : Buf) (h : f.size < 4 ∨ Spec.Tex.u32At f 0 ≠ 0x58464743) :
    run (cgfxProg p) f ⟨0, [], 0⟩ = .err (if f.size < 4 then .Eof else .BadMagic) :=
  run_bad_magic (fun b => b.leN 0 4) _ _ _ _ f (leN_extract f 0 _ 0 4 (Nat.le_refl _)) (u32At_eq f 0 ▸ h)

end Mila.Containers
