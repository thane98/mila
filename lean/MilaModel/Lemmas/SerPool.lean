/-
The text pool of `serialize` (`add_text`): after adding a sequence of strings the pool holds every
distinct string once, in order of first use, and the offset handed out for a string is its offset
in that final pool.  The three loops of `serialize` that call `add_text` are folds of this step.
Also: the `IndexMap` of string-pointer groups (`pushGroup`) is "group by key in first-use order".
-/
import MilaModel.Lemmas.SerBytes
import MilaModel.Lemmas.SerSort

namespace Mila.Ser
open Mila.BinArchive
open Spec.Image (entry offsetIn dedupAux dedup)

theorem dedupAux_congr {α : Type} [DecidableEq α] : ∀ (l : List α) (s₁ s₂ : List α),
    (∀ x, x ∈ s₁ ↔ x ∈ s₂) → dedupAux s₁ l = dedupAux s₂ l := by
  intro l
  induction l with
  | nil => intro _ _ _; rfl
  | cons x xs ih =>
    intro s₁ s₂ h
    simp only [dedupAux]
    by_cases hx : x ∈ s₁
    · rw [if_pos hx, if_pos ((h x).mp hx)]; exact ih s₁ s₂ h
    · rw [if_neg hx, if_neg (fun h' => hx ((h x).mpr h'))]
      congr 1
      apply ih
      intro y; simp [h y]

theorem mem_dedupAux {α : Type} [DecidableEq α] (l seen : List α) (x : α) :
    x ∈ dedupAux seen l ↔ x ∈ l ∧ x ∉ seen := by
  induction l generalizing seen with
  | nil => simp [dedupAux]
  | cons y ys ih =>
    simp only [dedupAux]
    by_cases hy : y ∈ seen
    · rw [if_pos hy, ih, List.mem_cons]
      constructor
      · exact fun h => ⟨Or.inr h.1, h.2⟩
      · rintro ⟨rfl | h1, h2⟩
        · exact absurd hy h2
        · exact ⟨h1, h2⟩
    · rw [if_neg hy, List.mem_cons, ih, List.mem_cons, List.mem_cons]
      by_cases hxy : x = y
      · subst hxy; simp [hy]
      · simp [hxy]

theorem mem_dedup {α : Type} [DecidableEq α] (l : List α) (x : α) : x ∈ dedup l ↔ x ∈ l := by
  simp [dedup, mem_dedupAux]

theorem nodup_dedupAux {α : Type} [DecidableEq α] : ∀ (l seen : List α), (dedupAux seen l).Nodup := by
  intro l
  induction l with
  | nil => intro _; simp [dedupAux]
  | cons y ys ih =>
    intro seen
    simp only [dedupAux]
    by_cases hy : y ∈ seen
    · rw [if_pos hy]; exact ih seen
    · rw [if_neg hy, List.nodup_cons]
      refine ⟨?_, ih _⟩
      rw [mem_dedupAux]; simp

theorem nodup_dedup {α : Type} [DecidableEq α] (l : List α) : (dedup l).Nodup := nodup_dedupAux l []

theorem dedupAux_sublist {α : Type} [DecidableEq α] : ∀ (l seen : List α), (dedupAux seen l).Sublist l := by
  intro l
  induction l with
  | nil => intro _; exact List.Sublist.refl _
  | cons x xs ih =>
    intro seen
    simp only [dedupAux]
    by_cases hx : x ∈ seen
    · rw [if_pos hx]; exact (ih seen).cons x
    · rw [if_neg hx]; exact (ih _).cons_cons x

theorem dedupAux_append_singleton {α : Type} [DecidableEq α] (l seen : List α) (k : α) :
    dedupAux seen (l ++ [k]) =
      if k ∈ seen ∨ k ∈ l then dedupAux seen l else dedupAux seen l ++ [k] := by
  induction l generalizing seen with
  | nil => by_cases hk : k ∈ seen <;> simp [dedupAux, hk]
  | cons y ys ih =>
    simp only [List.cons_append, dedupAux, ih, List.mem_cons]
    by_cases hy : y ∈ seen <;> by_cases hky : k = y
    · subst hky; simp [hy]
    · simp [hy, hky]
    · subst hky; simp [hy]
    · simp only [if_neg hy, hky, false_or]
      split <;> rfl

theorem dedup_append_singleton {α : Type} [DecidableEq α] (l : List α) (k : α) :
    dedup (l ++ [k]) = if k ∈ l then dedup l else dedup l ++ [k] := by
  simp [dedup, dedupAux_append_singleton]

theorem dedup_map_of_inj {α β : Type} [DecidableEq α] [DecidableEq β] (f : α → β) (P : α → Prop)
    (inj : ∀ x y, P x → P y → f x = f y → x = y) :
    ∀ (l seen : List α), (∀ x ∈ l, P x) → (∀ x ∈ seen, P x) →
      dedupAux (seen.map f) (l.map f) = (dedupAux seen l).map f := by
  intro l
  induction l with
  | nil => intro _ _ _; rfl
  | cons x xs ih =>
    intro seen hl hs
    have hx := hl x (by simp)
    have hxs : ∀ y ∈ xs, P y := fun y hy => hl y (by simp [hy])
    have hiff : f x ∈ seen.map f ↔ x ∈ seen := by
      refine ⟨fun h => ?_, List.mem_map_of_mem⟩
      obtain ⟨y, hy, hxy⟩ := List.mem_map.mp h
      exact inj y x (hs y hy) hx hxy ▸ hy
    simp only [List.map_cons, dedupAux, hiff]
    split
    · exact ih seen hxs hs
    · rw [List.map_cons, ← List.map_cons, ih (x :: seen) hxs]
      intro y hy
      rcases List.mem_cons.mp hy with rfl | hy
      · exact hx
      · exact hs y hy

theorem entry_length_pos (enc : Bytes → Option Bytes) (s : Bytes) : 0 < (entry enc s).length := by
  simp [entry]

theorem offsetIn_append_of_mem (enc : Bytes → Option Bytes) (ks more : List Bytes) (s : Bytes)
    (h : s ∈ ks) : offsetIn enc (ks ++ more) s = offsetIn enc ks s := by
  induction ks with
  | nil => cases h
  | cons x xs ih =>
    by_cases hx : x = s
    · simp [offsetIn, hx]
    · simp [offsetIn, hx, ih (by simpa [Ne.symm hx] using h)]

theorem offsetIn_append_of_not_mem (enc : Bytes → Option Bytes) (ks more : List Bytes) (s : Bytes)
    (h : s ∉ ks) : offsetIn enc (ks ++ more) s = (ks.flatMap (entry enc)).length + offsetIn enc more s := by
  induction ks with
  | nil => simp
  | cons x xs ih =>
    have hx : ¬ x = s := fun e => h (by simp [e])
    simp_all [offsetIn, Nat.add_assoc]

theorem offsetIn_inj (enc : Bytes → Option Bytes) (ks : List Bytes) (s t : Bytes)
    (hs : s ∈ ks) (ht : t ∈ ks) (h : offsetIn enc ks s = offsetIn enc ks t) : s = t := by
  induction ks with
  | nil => cases hs
  | cons x xs ih =>
    have hp := entry_length_pos enc x
    simp only [offsetIn] at h
    by_cases hxs : x = s <;> by_cases hxt : x = t
    · exact hxs.symm.trans hxt
    · rw [if_pos hxs, if_neg hxt] at h; omega
    · rw [if_neg hxs, if_pos hxt] at h; omega
    · rw [if_neg hxs, if_neg hxt] at h
      exact ih (by simpa [Ne.symm hxs] using hs) (by simpa [Ne.symm hxt] using ht) (by omega)

theorem strAt_pool (enc : Bytes → Option Bytes) (ks : List Bytes) (s b : Bytes)
    (hs : s ∈ ks) (hb : enc s = some b) :
    Spec.Image.StrAt (ks.flatMap (entry enc)) (offsetIn enc ks s) b := by
  induction ks with
  | nil => cases hs
  | cons x xs ih =>
    simp only [List.flatMap_cons, offsetIn]
    by_cases hx : x = s
    · subst hx
      have : entry enc x = b ++ [0] := by simp [entry, hb]
      rw [if_pos rfl, this, List.append_assoc]
      exact strAt_zero b _
    · rw [if_neg hx]
      exact (strAt_append_right rfl _ _ _).mpr (ih (by simpa [Ne.symm hx] using hs))

/-- The distinct strings stored so far, in order of first use, after one more `add_text s`. -/
def addKey (ks : List Str) (s : Str) : List Str := if s ∈ ks then ks else ks ++ [s]

def addKeys (ks ss : List Str) : List Str := ss.foldl addKey ks

/-- The pool `add_text` has built once the distinct strings `ks` have been stored in this order. -/
def poolOf (enc : Bytes → Option Bytes) (ks : List Str) : TextPool :=
  ⟨ks.flatMap (entry enc), ks.map (fun s => (s, offsetIn enc ks s))⟩

theorem addKeys_eq : ∀ (ss ks : List Str), addKeys ks ss = ks ++ dedupAux ks ss := by
  intro ss
  induction ss with
  | nil => intro ks; simp [addKeys, dedupAux]
  | cons s ss ih =>
    intro ks
    simp only [addKeys, List.foldl_cons, dedupAux] at ih ⊢
    by_cases hs : s ∈ ks
    · simp only [addKey, if_pos hs]; exact ih ks
    · simp only [addKey, if_neg hs]
      rw [ih (ks ++ [s]), List.append_assoc]
      congr 1
      simp only [List.singleton_append]
      congr 1
      apply dedupAux_congr
      intro x; simp [or_comm]

theorem addKeys_nil (ss : List Str) : addKeys [] ss = dedup ss := by
  rw [addKeys_eq]; rfl

theorem addKeys_append (ks ss₁ ss₂ : List Str) : addKeys ks (ss₁ ++ ss₂) = addKeys (addKeys ks ss₁) ss₂ := by
  simp [addKeys, List.foldl_append]

theorem mem_addKeys (ks ss : List Str) (x : Str) : x ∈ addKeys ks ss ↔ x ∈ ks ∨ x ∈ ss := by
  rw [addKeys_eq, List.mem_append, mem_dedupAux]
  by_cases h : x ∈ ks <;> simp [h]

theorem offsetIn_addKeys (enc : Bytes → Option Bytes) (ks ss : List Str) (s : Str) (h : s ∈ ks) :
    offsetIn enc (addKeys ks ss) s = offsetIn enc ks s := by
  rw [addKeys_eq]; exact offsetIn_append_of_mem enc ks _ s h

theorem get_map_self {κ β : Type} [DecidableEq κ] (f : κ → β) (ks : List κ) (s : κ) :
    UMap.get (ks.map (fun x => (x, f x))) s = if s ∈ ks then some (f s) else none := by
  induction ks with
  | nil => rfl
  | cons x xs ih =>
    rw [List.map_cons, UMap.get_cons, ih]
    by_cases hx : x = s
    · simp [hx]
    · simp [hx, Ne.symm hx]

theorem addText_poolOf (c : Codec) (ks : List Str) (s b : Str) (hb : c.enc s = some b) :
    addText c (poolOf c.enc ks) s =
      .ok (poolOf c.enc (addKey ks s), offsetIn c.enc (addKey ks s) s) := by
  unfold addText
  simp only [poolOf]
  rw [get_map_self]
  by_cases hs : s ∈ ks
  · simp [hs, addKey]
  · rw [if_neg hs]
    simp only [hb, addKey, if_neg hs]
    congr 1
    have e1 : entry c.enc s = b ++ [0] := by simp [entry, hb]
    have e2 : offsetIn c.enc (ks ++ [s]) s = (ks.flatMap (entry c.enc)).length := by
      rw [offsetIn_append_of_not_mem c.enc ks [s] s hs]; simp [offsetIn]
    rw [e2]
    congr 1
    congr 1
    · simp [List.flatMap_append, e1]
    · rw [List.map_append]
      congr 1
      · apply List.map_congr_left
        intro x hx
        rw [offsetIn_append_of_mem c.enc ks [s] x hx]
      · simp [e2]

/-- **A loop around `add_text`.**  `step` adds `key x` and updates the rest of the state with
the offset; under an invariant that keeps the remaining work total, the loop equals a pure fold
that uses the offsets of the *final* pool. -/
theorem fold_addText {σ ι : Type} (c : Codec) (key : ι → Str) (g : σ → ι → Nat → σ)
    (Inv : σ → Prop) (P : ι → Prop) (step : TextPool × σ → ι → Res (TextPool × σ))
    (hstep : ∀ tp s x tp' off, Inv s → P x → addText c tp (key x) = .ok (tp', off) →
      step (tp, s) x = .ok (tp', g s x off))
    (hinv : ∀ s x off, Inv s → P x → Inv (g s x off)) :
    ∀ (xs : List ι) (ks : List Str) (s : σ), Inv s → (∀ x ∈ xs, P x) →
      (∀ x ∈ xs, ∃ b, c.enc (key x) = some b) →
      xs.foldlM step (poolOf c.enc ks, s) =
        .ok (poolOf c.enc (addKeys ks (xs.map key)),
             xs.foldl (fun s x => g s x (offsetIn c.enc (addKeys ks (xs.map key)) (key x))) s) := by
  intro xs
  induction xs with
  | nil => intro ks s _ _ _; rfl
  | cons x xs ih =>
    intro ks s hI hP henc
    obtain ⟨b, hb⟩ := henc x (by simp)
    have hPx := hP x (by simp)
    rw [List.foldlM_cons, hstep _ s x _ _ hI hPx (addText_poolOf c ks (key x) b hb)]
    show xs.foldlM step _ = _
    rw [ih (addKey ks (key x)) _ (hinv s x _ hI hPx) (fun y hy => hP y (by simp [hy]))
      (fun y hy => henc y (by simp [hy]))]
    have hk : addKeys ks ((x :: xs).map key) = addKeys (addKey ks (key x)) (xs.map key) := by
      simp [addKeys]
    have hmem : key x ∈ addKey ks (key x) := by
      unfold addKey; by_cases h : key x ∈ ks <;> simp [h]
    rw [hk, List.foldl_cons, offsetIn_addKeys c.enc _ _ _ hmem]

/-- `ptr_data_pairs` as a function of the items pushed: values grouped by key, keys in order of
first use, values in order. -/
def groupsOf (items : List (Nat × Nat)) : List (Nat × List Nat) :=
  (dedup (items.map (·.1))).map (fun k => (k, (items.filter (fun it => it.1 = k)).map (·.2)))

theorem pushGroup_groupsOf (items : List (Nat × Nat)) (k v : Nat) :
    pushGroup (groupsOf items) k v = groupsOf (items ++ [(k, v)]) := by
  unfold pushGroup groupsOf
  rw [List.map_append, List.map_cons, List.map_nil, dedup_append_singleton]
  by_cases hk : k ∈ items.map (·.1)
  · -- `k` has a group already: that group gets `v`, the other groups are unchanged
    have hany : ((dedup (items.map (·.1))).map
        (fun k => (k, (items.filter (fun it => it.1 = k)).map (·.2)))).any (fun g => g.1 = k) = true := by
      rw [List.any_eq_true]
      exact ⟨(k, _), List.mem_map.mpr ⟨k, (mem_dedup _ _).mpr hk, rfl⟩, by simp⟩
    rw [if_pos hany, if_pos hk, List.map_map]
    apply List.map_congr_left
    intro k' _
    simp only [Function.comp]
    by_cases hkk : k' = k
    · subst hkk; simp [List.filter_append]
    · have : ¬ k = k' := fun e => hkk e.symm
      simp [hkk, List.filter_append, this]
  · -- a key not met before: the groups are unchanged, and `(k, [v])` is a new last group
    have hany : ((dedup (items.map (·.1))).map
        (fun k => (k, (items.filter (fun it => it.1 = k)).map (·.2)))).any (fun g => g.1 = k) = false := by
      rw [List.any_eq_false]
      intro g hg
      obtain ⟨k', hk', rfl⟩ := List.mem_map.mp hg
      have : k' ≠ k := fun e => hk (e ▸ (mem_dedup _ _).mp hk')
      simpa using this
    rw [hany, if_neg hk]
    simp only [Bool.false_eq_true, if_false, List.map_append, List.map_cons, List.map_nil]
    congr 1
    · apply List.map_congr_left
      intro k' hk'
      have : ¬ k = k' := fun e => hk (e ▸ (mem_dedup _ _).mp hk')
      simp [List.filter_append, this]
    · have : items.filter (fun it => it.1 = k) = [] := by
        rw [List.filter_eq_nil_iff]
        intro it hit
        have : it.1 ≠ k := fun e => hk (e ▸ List.mem_map_of_mem hit)
        simpa using this
      simp [List.filter_append, this]

theorem foldl_pushGroup_aux : ∀ (items pre : List (Nat × Nat)),
    items.foldl (fun gr it => pushGroup gr it.1 it.2) (groupsOf pre) = groupsOf (pre ++ items) := by
  intro items
  induction items with
  | nil => intro pre; simp
  | cons x xs ih =>
    intro pre
    rw [List.foldl_cons, pushGroup_groupsOf, ih]
    simp

theorem foldl_pushGroup (items : List (Nat × Nat)) :
    items.foldl (fun gr it => pushGroup gr it.1 it.2) [] = groupsOf items :=
  foldl_pushGroup_aux items []

end Mila.Ser
