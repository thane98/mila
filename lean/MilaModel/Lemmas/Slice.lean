/-
`slice` and `patch` of a byte string by positions, padding to a multiple of four, and the
NUL-terminated string at the head of a byte string.
-/
import MilaModel.Model.BinArchive

namespace Mila.BinArchive

theorem getElem?_slice (d : Bytes) (p n i : Nat) :
    (slice d p n)[i]? = if i < n then d[p + i]? else none := by
  unfold slice
  rw [List.getElem?_take]
  by_cases h : i < n <;> simp [h, List.getElem?_drop]

theorem length_slice (d : Bytes) (p n : Nat) (h : p + n ≤ d.length) : (slice d p n).length = n := by
  unfold slice; simp; omega

theorem getElem?_patch (d : Bytes) (q : Nat) (v : Bytes) (i : Nat) (h : q + v.length ≤ d.length) :
    (patch d q v)[i]? = if q ≤ i ∧ i < q + v.length then v[i - q]? else d[i]? := by
  unfold patch
  have hq : (d.take q).length = q := by simp; omega
  rw [List.append_assoc, List.getElem?_append, hq]
  by_cases h1 : i < q
  · simp [h1]
    intro h2; omega
  · rw [if_neg h1, List.getElem?_append]
    by_cases h2 : i - q < v.length
    · rw [if_pos h2, if_pos (by omega)]
    · rw [if_neg h2, if_neg (by omega), List.getElem?_drop]
      congr 1; omega

theorem length_patch (d : Bytes) (q : Nat) (v : Bytes) (h : q + v.length ≤ d.length) :
    (patch d q v).length = d.length := by
  unfold patch; simp; omega

theorem slice_patch_before (d : Bytes) (q : Nat) (v : Bytes) (p n : Nat)
    (h : q + v.length ≤ d.length) (hp : p + n ≤ q) : slice (patch d q v) p n = slice d p n := by
  apply List.ext_getElem?
  intro i
  rw [getElem?_slice, getElem?_slice]
  by_cases hi : i < n
  · rw [if_pos hi, if_pos hi, getElem?_patch _ _ _ _ h, if_neg (by omega)]
  · rw [if_neg hi, if_neg hi]

theorem slice_patch (d : Bytes) (q : Nat) (v : Bytes) (h : q + v.length ≤ d.length) :
    slice (patch d q v) q v.length = v := by
  apply List.ext_getElem?
  intro i
  rw [getElem?_slice]
  by_cases hi : i < v.length
  · rw [if_pos hi, getElem?_patch _ _ _ _ h, if_pos (by omega)]
    congr 1; omega
  · rw [if_neg hi]; symm; apply List.getElem?_eq_none; omega

theorem slice_append_left (d e : Bytes) (p n : Nat) (h : p + n ≤ d.length) :
    slice (d ++ e) p n = slice d p n := by
  apply List.ext_getElem?
  intro i
  rw [getElem?_slice, getElem?_slice]
  by_cases hi : i < n
  · rw [if_pos hi, if_pos hi, List.getElem?_append, if_pos (by omega)]
  · rw [if_neg hi, if_neg hi]

theorem patch_append (d : Bytes) (q : Nat) (v1 v2 : Bytes) (h : q + (v1.length + v2.length) ≤ d.length) :
    patch d q (v1 ++ v2) = patch (patch d q v1) (q + v1.length) v2 := by
  have h1 : q + v1.length ≤ d.length := by omega
  have hl : (patch d q v1).length = d.length := length_patch _ _ _ h1
  apply List.ext_getElem?
  intro i
  rw [getElem?_patch _ _ _ _ (by simpa using h), getElem?_patch _ _ _ _ (by rw [hl]; omega),
    getElem?_patch _ _ _ _ h1]
  simp only [List.length_append]
  by_cases c1 : q ≤ i ∧ i < q + v1.length
  · rw [if_pos (by omega), if_neg (by omega), if_pos c1, List.getElem?_append, if_pos (by omega)]
  · by_cases c2 : q + v1.length ≤ i ∧ i < q + v1.length + v2.length
    · rw [if_pos (by omega), if_pos c2, List.getElem?_append, if_neg (by omega)]
      congr 1; omega
    · rw [if_neg (by omega), if_neg c2, if_neg c1]

theorem patch_patch_adjacent (d : Bytes) (q : Nat) (b : UInt8) (v : Bytes)
    (h : q + (v.length + 1) ≤ d.length) :
    patch (patch d q [b]) (q + 1) v = patch d q (b :: v) :=
  (patch_append d q [b] v (by simpa [Nat.add_comm] using h)).symm

theorem slice_append_right (d e : Bytes) : slice (d ++ e) d.length e.length = e := by
  unfold slice; simp

theorem slice_succ (d : Bytes) (p n : Nat) (h : p < d.length) :
    slice d p (n + 1) = d[p] :: slice d (p + 1) n := by
  apply List.ext_getElem?
  intro i
  rw [getElem?_slice]
  cases i with
  | zero => simp [h]
  | succ i =>
    rw [List.getElem?_cons_succ, getElem?_slice]
    by_cases hi : i < n
    · rw [if_pos hi, if_pos (by omega)]; congr 1; omega
    · rw [if_neg hi, if_neg (by omega)]

theorem slice_add (d : Bytes) (p n m : Nat) :
    slice d p (n + m) = slice d p n ++ slice d (p + n) m := by
  unfold slice
  rw [List.take_add, List.drop_drop]

theorem slice_one (d : Bytes) (p : Nat) (h : p < d.length) : slice d p 1 = [d.getD p 0] := by
  unfold slice
  rw [List.drop_eq_getElem_cons h]
  simp [List.getD, List.getElem?_eq_getElem h, List.take]

theorem patch_nil (d : Bytes) (q : Nat) : patch d q [] = d := by
  unfold patch; simp

theorem padTo4_length (b : Bytes) : (padTo4 b).length = b.length + (4 - b.length % 4) % 4 := by
  simp [padTo4]

theorem padTo4_length_mod (b : Bytes) : (padTo4 b).length % 4 = 0 := by
  rw [padTo4_length]; omega

theorem padTo4_length_ge (b : Bytes) : b.length ≤ (padTo4 b).length := by
  rw [padTo4_length]; omega

theorem padTo4_length_le (b : Bytes) : (padTo4 b).length ≤ b.length + 3 := by
  rw [padTo4_length]; omega

theorem cstrBytes_append (b rest : Bytes) (h : (0 : UInt8) ∉ b) :
    cstrBytes (b ++ 0 :: rest) = some b := by
  induction b with
  | nil => simp [cstrBytes]
  | cons x xs ih =>
    have hx : x ≠ 0 := fun e => h (by simp [e])
    have := ih (fun hm => h (by simp [hm]))
    simp [cstrBytes, hx, this]

end Mila.BinArchive
