/- Model layers seen as the specification's directory walks, and the top-down searches (C12/C13). -/
import MilaModel.Model.LayeredFs
import MilaModel.Spec.OverlayFs
import MilaModel.Lemmas.FsPath
import MilaModel.Lemmas.FsLayer

namespace Mila.LayeredFs
open Mila.Spec.Overlay (Walk Kind Loc locOf topFile IsTopFile)

def kindOf : Node → Kind
  | .file b => .file b
  | .dir => .dir

/-- The directory walk of a model layer (what the harness prints for a real layer). -/
def walkOf (l : Layer) : Walk := l.map (fun e => (e.1, kindOf e.2))

def walksOf (fs : Fs) : List Walk := fs.layers.map walkOf

theorem at_walkOf (l : Layer) (c : Comps) : (walkOf l).at c = (l.get c).map kindOf := by
  unfold Spec.Overlay.Walk.at Layer.get walkOf
  split
  · rfl
  · rw [List.find?_map, Option.map_map, Option.map_map]; rfl

theorem at_dir_iff (l : Layer) (c : Comps) : (walkOf l).at c = some .dir ↔ l.get c = some .dir := by
  rw [at_walkOf]
  cases l.get c with
  | none => simp
  | some n => cases n <;> simp [kindOf]

theorem notFile_walkOf (l : Layer) (a : Comps) :
    Spec.Overlay.notFile ((walkOf l).at a) = !Layer.isFileNode (l.get a) := by
  rw [at_walkOf]
  cases l.get a with
  | none => rfl
  | some n => cases n <;> rfl

theorem stat_of_locOf (l : Layer) {p : Bytes} {q : Loc} (h : locOf p = some q) :
    l.stat p = match l.get q.comps with
      | some .dir => some .dir
      | some (.file b) => if q.dirOnly then none else some (.file b)
      | none => none := by
  simp only [Layer.stat, parsePath_of_locOf h]
  cases l.get q.comps with
  | none => rfl
  | some n => cases n <;> rfl

theorem fileAt_walkOf (l : Layer) {p : Bytes} {q : Loc} (h : locOf p = some q) :
    (walkOf l).fileAt q = match l.stat p with
      | some (.file b) => some b
      | _ => none := by
  rw [stat_of_locOf l h]
  unfold Spec.Overlay.Walk.fileAt
  rw [at_walkOf]
  cases hd : q.dirOnly <;> cases hg : l.get q.comps with
  | none => simp
  | some n => cases n <;> simp [kindOf]

theorem fileExists_eq (l : Layer) {p : Bytes} {q : Loc} (h : locOf p = some q) :
    l.fileExists p = ((walkOf l).fileAt q).isSome := by
  rw [fileAt_walkOf l h]
  unfold Layer.fileExists
  cases l.stat p with
  | none => rfl
  | some n => cases n <;> rfl

theorem read_eq (l : Layer) {p : Bytes} {q : Loc} (h : locOf p = some q) :
    l.read p = match (walkOf l).fileAt q with
      | some b => .ok b
      | none => .err .Io := by
  rw [fileAt_walkOf l h]
  unfold Layer.read
  cases l.stat p with
  | none => rfl
  | some n => cases n <;> rfl

theorem dirExists_eq (l : Layer) {p : Bytes} {q : Loc} (h : locOf p = some q) :
    l.directoryExists p = (walkOf l).dirAt q := by
  unfold Layer.directoryExists Spec.Overlay.Walk.dirAt
  rw [stat_of_locOf l h, at_walkOf]
  cases hd : q.dirOnly <;> cases hg : l.get q.comps with
  | none => simp
  | some n => cases n <;> simp [kindOf]

theorem at_dir_iff_stat (l : Layer) {d : Bytes} {q : Loc} (h : locOf d = some q) :
    (walkOf l).at q.comps = some .dir ↔ l.stat d = some .dir := by
  simpa [Layer.directoryExists, Spec.Overlay.Walk.dirAt] using (dirExists_eq l h).symm

theorem exists_eq (l : Layer) {p : Bytes} {q : Loc} (h : locOf p = some q) :
    l.exists_ p = (walkOf l).existsAt q := by
  unfold Spec.Overlay.Walk.existsAt
  rw [← dirExists_eq l h, fileAt_walkOf l h]
  unfold Layer.exists_ Layer.directoryExists
  cases l.stat p with
  | none => rfl
  | some n => cases n <;> simp

theorem topFile_isTop (ws : List Walk) (q : Loc) (b : Bytes) :
    topFile ws q = some b ↔ IsTopFile ws q b := by
  unfold topFile IsTopFile
  rw [List.findSome?_eq_some_iff]
  constructor
  · rintro ⟨l1, a, l2, hrev, hfa, hnone⟩
    refine ⟨l2.reverse, a, l1.reverse, ?_, hfa, ?_⟩
    · have := congrArg List.reverse hrev
      simpa using this
    · intro w hw; exact hnone w (List.mem_reverse.mp hw)
  · rintro ⟨lo, w, hi, rfl, hfa, hnone⟩
    refine ⟨hi.reverse, w, lo.reverse, by simp, hfa, ?_⟩
    intro x hx; exact hnone x (List.mem_reverse.mp hx)

theorem topFile_none (ws : List Walk) (q : Loc) :
    topFile ws q = none ↔ ∀ w ∈ ws, w.fileAt q = none := by
  unfold topFile
  rw [List.findSome?_eq_none_iff]
  simp

/-- The search loop of `read` is the specification's top-down search. -/
theorem readAt_top (E : Env) (fs : Fs) (z : Bool) {p : Bytes} {q : Loc} (h : locOf p = some q) :
    fs.readAt E p z =
      match topFile (walksOf fs) q with
      | none => .err .NotFound
      | some s => if z then reclass .Decoding ((E.lz fs.cfg.lz).decompress s) else .ok s := by
  unfold Fs.readAt topFile walksOf
  rw [← List.map_reverse]
  generalize fs.layers.reverse = L
  induction L with
  | nil => rfl
  | cons l rest ih =>
    simp only [List.map_cons, List.findSome?_cons, List.find?_cons, fileExists_eq l h]
    cases hf : (walkOf l).fileAt q with
    | none => exact ih
    | some s => simp only [Option.isSome_some, read_eq l h, hf]

theorem anyLayer_walks (fs : Fs) (f : Layer → Bool) (g : Walk → Bool) (h : ∀ l, f l = g (walkOf l)) :
    fs.anyLayer f = (walksOf fs).any g := by
  rw [Bool.eq_iff_iff, Fs.anyLayer, List.find?_isSome]
  simp [walksOf, List.any_eq_true, h]

theorem exists_walks (fs : Fs) {p : Bytes} {q : Loc} (h : locOf p = some q) :
    fs.exists_ p false = .ok (Spec.Overlay.anyExists (walksOf fs) q) :=
  congrArg Res.ok (anyLayer_walks fs _ (·.existsAt q) fun l => exists_eq l h)

/-- The model's "highest layer satisfying `f`" against the specification's recursion. -/
theorem topIndex_cons (l : Layer) (rest : List Layer) (f : Layer → Bool) :
    Fs.topIndex (l :: rest) f =
      match Fs.topIndex rest f with
      | some i => some (i + 1)
      | none => if f l then some 0 else none := by
  unfold Fs.topIndex
  rw [List.reverse_cons, List.findIdx?_append, List.length_cons]
  cases h : rest.reverse.findIdx? f with
  | some i =>
    obtain ⟨hi, _⟩ := List.findIdx?_eq_some_iff_getElem.mp h
    rw [List.length_reverse] at hi
    simp only [Option.some_or, Option.some.injEq]
    omega
  | none =>
    by_cases hf : f l = true
    · simp [hf]
    · simp [hf]

theorem topIndex_eq_topExists (ls : List Layer) {p : Bytes} {q : Loc} (h : locOf p = some q) :
    Fs.topIndex ls (fun l => l.exists_ p) = Spec.Overlay.topExists (ls.map walkOf) q := by
  induction ls with
  | nil => rfl
  | cons l rest ih =>
    rw [topIndex_cons, ih]
    simp only [List.map_cons, Spec.Overlay.topExists, exists_eq l h]
    cases Spec.Overlay.topExists (List.map walkOf rest) q <;> rfl

theorem properPrefixes_eq_prefixes (c : Comps) : Spec.Overlay.properPrefixes c = prefixes c.dropLast := by
  unfold Spec.Overlay.properPrefixes prefixes
  rw [List.length_dropLast]
  apply List.map_congr_left
  intro i hi
  rw [List.dropLast_eq_take, List.take_take]
  congr 1
  have := List.mem_range.mp hi
  omega

theorem prefixes_eq (c : Comps) (hc : c ≠ []) : prefixes c = Spec.Overlay.properPrefixes c ++ [c] := by
  obtain ⟨n, hn⟩ : ∃ n, c.length = n + 1 := ⟨c.length - 1, by have := List.length_pos_iff.mpr hc; omega⟩
  unfold prefixes Spec.Overlay.properPrefixes
  rw [hn, List.range_succ, List.map_append, Nat.add_sub_cancel]
  simp [← hn]

end Mila.LayeredFs
