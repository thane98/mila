/-
Spec-level lemmas for LZ streams (C08–C11): sizes, append laws, the flag bits of a group, the bytes
of a token, the bytes `copyBack` leaves at each index.
-/
import MilaModel.Spec.LzStream
import MilaModel.Lemmas.Bytes

namespace Mila.Spec.Lz

@[simp] theorem copyBack_size (out : Array UInt8) (d n : Nat) : (copyBack out d n).size = out.size + n := by
  induction n generalizing out with
  | zero => simp [copyBack]
  | succ n ih => simp [copyBack, ih]; omega

/-- Total number of bytes produced by a token list. -/
def tsize : List Tok → Nat
  | [] => 0
  | t :: ts => t.size + tsize ts

@[simp] theorem tsize_nil : tsize [] = 0 := rfl
@[simp] theorem tsize_cons (t : Tok) (ts : List Tok) : tsize (t :: ts) = t.size + tsize ts := rfl
@[simp] theorem tsize_append (a b : List Tok) : tsize (a ++ b) = tsize a + tsize b := by
  induction a with
  | nil => simp
  | cons t ts ih => simp [ih]; omega

@[simp] theorem expandFrom_size (out : Array UInt8) (ts : List Tok) :
    (expandFrom out ts).size = out.size + tsize ts := by
  induction ts generalizing out with
  | nil => simp [expandFrom]
  | cons t ts ih =>
    cases t with
    | lit b => simp [expandFrom, ih, Tok.size]; omega
    | ref len disp => simp [expandFrom, ih, Tok.size]; omega

@[simp] theorem expand_size (toks : List Tok) : (expand toks).size = tsize toks := by
  simp [expand]

theorem expandFrom_append (out : Array UInt8) (a b : List Tok) :
    expandFrom out (a ++ b) = expandFrom (expandFrom out a) b := by
  induction a generalizing out with
  | nil => simp [expandFrom]
  | cons t ts ih => cases t <;> simp [expandFrom, ih]

theorem validFrom_append (ext : Bool) (h : Nat) (a b : List Tok) :
    ValidFrom ext h (a ++ b) ↔ ValidFrom ext h a ∧ ValidFrom ext (h + tsize a) b := by
  induction a generalizing h with
  | nil => simp [ValidFrom]
  | cons t ts ih =>
    cases t with
    | lit x => simp [ValidFrom, ih, Tok.size, Nat.add_assoc]
    | ref len disp =>
      simp only [List.cons_append, ValidFrom, ih, tsize_cons, Tok.size, Nat.add_assoc]
      constructor
      · rintro ⟨a, b, c, d, e, f⟩; exact ⟨⟨a, b, c, d, e⟩, f⟩
      · rintro ⟨⟨a, b, c, d, e⟩, f⟩; exact ⟨a, b, c, d, e, f⟩

theorem validFrom_cons {ext : Bool} {h : Nat} {t : Tok} {ts : List Tok} :
    ValidFrom ext h (t :: ts) ↔ ValidFrom ext h [t] ∧ ValidFrom ext (h + t.size) ts := by
  have := validFrom_append ext h [t] ts
  simpa [tsize] using this

theorem lenOk_pos {ext : Bool} {len : Nat} (h : lenOk ext len) : 3 ≤ len := by
  unfold lenOk at h; split at h <;> exact h.1

theorem tsize_pos_of_valid {ext : Bool} {h : Nat} {t : Tok} {ts : List Tok}
    (hv : ValidFrom ext h (t :: ts)) : 1 ≤ t.size := by
  cases t with
  | lit b => simp [Tok.size]
  | ref len disp => have := lenOk_pos hv.1; simp [Tok.size]; omega

/-- `FlagOk` for a group whose first token is governed by bit `k - 1` of `flags`: the form in which
the decoder and the parser meet it inside a group (`FlagOk f g` is `FlagOkAt 8 f.toNat g`). -/
def FlagOkAt (k flags : Nat) (g : List Tok) : Prop :=
  ∀ i (h : i < g.length), flags.testBit (k - 1 - i) = (g[i]).isRef

theorem flagOkAt_nil (k flags : Nat) : FlagOkAt k flags [] :=
  fun i h => absurd h (Nat.not_lt_zero i)

theorem flagOkAt_cons {k flags : Nat} {t : Tok} {ts : List Tok} :
    FlagOkAt (k + 1) flags (t :: ts) ↔ flags.testBit k = t.isRef ∧ FlagOkAt k flags ts := by
  have e (i : Nat) : k + 1 - 1 - (i + 1) = k - 1 - i := by omega
  constructor
  · intro h
    refine ⟨h 0 (by simp), fun i hi => ?_⟩
    have := h (i + 1) (by simpa using hi)
    rwa [e] at this
  · rintro ⟨h0, hs⟩ i hi
    cases i with
    | zero => exact h0
    | succ i =>
      rw [e]
      exact hs i (by simpa using hi)

theorem FlagOkAt.left {k flags : Nat} {a b : List Tok} (h : FlagOkAt k flags (a ++ b)) :
    FlagOkAt k flags a := by
  intro i hi
  rw [h i (by simp; omega), List.getElem_append_left hi]

theorem flagOf_lt (g : List Tok) (i : Nat) (h : i + g.length ≤ 8) : flagOf i g < 2 ^ (8 - i) := by
  fun_induction flagOf i g with
  | case1 => exact Nat.pow_pos (by omega)
  | case2 i t ts ih =>
    simp at h
    apply Nat.or_lt_two_pow
    · split
      · exact Nat.pow_lt_pow_right (by omega) (by omega)
      · exact Nat.pow_pos (by omega)
    · exact Nat.lt_of_lt_of_le (ih (by omega)) (Nat.pow_le_pow_right (by omega) (by omega))

theorem flagOf_testBit : ∀ (g : List Tok) (i j : Nat) (hj : j < g.length), i + g.length ≤ 8 →
    (flagOf i g).testBit (7 - (i + j)) = (g[j]).isRef := by
  intro g
  induction g with
  | nil => intro i j hj; simp at hj
  | cons t ts ih =>
    intro i j hj h
    simp at h hj
    simp only [flagOf, Nat.testBit_or]
    cases j with
    | zero =>
      have hlt := flagOf_lt ts (i + 1) (by omega)
      have e : 8 - (i + 1) = 7 - i := by omega
      rw [e] at hlt
      have hb : (flagOf (i + 1) ts).testBit (7 - i) = false := Nat.testBit_lt_two_pow hlt
      simp only [Nat.add_zero, hb, Bool.or_false, List.getElem_cons_zero]
      cases t.isRef <;> simp
    | succ j =>
      have hih := ih (i + 1) j (by omega) (by omega)
      have e : i + 1 + j = i + (j + 1) := by omega
      rw [e] at hih
      simp only [List.getElem_cons_succ, hih]
      have hne : ¬ (7 - i = 7 - (i + (j + 1))) := by omega
      cases t.isRef <;> simp [hne]

theorem flagOf_snoc (g : List Tok) (t : Tok) (i : Nat) :
    flagOf i (g ++ [t]) = flagOf i g ||| (if t.isRef then 2 ^ (7 - (i + g.length)) else 0) := by
  induction g generalizing i with
  | nil => simp [flagOf]
  | cons u us ih =>
    rw [List.cons_append, flagOf, flagOf, ih, Nat.or_assoc, List.length_cons,
      show i + 1 + us.length = i + (us.length + 1) by omega]

theorem flagOk_of_flagOf {f : UInt8} {g : List Tok} (h : f.toNat = flagOf 0 g) (hl : g.length ≤ 8) :
    FlagOk f g := by
  intro i hi
  rw [h]
  simpa using flagOf_testBit g 0 i hi (by omega)

theorem tokBytes_length_le (ext : Bool) (t : Tok) :
    (tokBytes ext t).length ≤ if ext then 4 else 2 := by
  cases t with
  | lit b => cases ext <;> simp [tokBytes]
  | ref len disp =>
    cases ext with
    | false => simp [tokBytes]
    | true =>
      simp only [tokBytes, Bool.not_true, Bool.false_eq_true, ↓reduceIte]
      split
      · simp
      · split <;> simp

theorem tokBytes_ref_le_len (ext : Bool) (len disp : Nat) (h : 3 ≤ len) :
    (tokBytes ext (.ref len disp)).length ≤ len := by
  cases ext with
  | false => simp [tokBytes]; omega
  | true =>
    simp only [tokBytes, Bool.not_true, Bool.false_eq_true, ↓reduceIte]
    split
    · simp; omega
    · split <;> simp <;> omega

theorem radix (m a b : Nat) (h : b < m) : (a * m + b) / m = a ∧ (a * m + b) % m = b := by
  rw [Nat.mul_comm, Nat.mul_add_div (by omega), Nat.mul_add_mod, Nat.div_eq_of_lt h,
    Nat.mod_eq_of_lt h]
  exact ⟨rfl, rfl⟩

theorem digits (m v : Nat) (hm : 0 < m) : ∃ a b, b < m ∧ v = a * m + b :=
  ⟨v / m, v % m, Nat.mod_lt _ hm, (Nat.div_add_mod' v m).symm⟩

theorem toNat_nib (a h : Nat) (ha : a < 16) (hh : h < 16) :
    (UInt8.ofNat (16 * a + h)).toNat = a * 16 + h := by
  rw [toNat_ofNat_lt (by omega), Nat.mul_comm]

theorem nib (b : UInt8) : UInt8.ofNat (16 * (b.toNat / 16) + b.toNat % 16) = b := by
  rw [Nat.div_add_mod]; exact UInt8.ofNat_toNat

theorem groups_nil_inv {ext : Bool} {bs : Bytes} (h : Groups ext [] bs) : bs = [] := by
  generalize hts : ([] : List Tok) = ts at h
  cases h with
  | nil => rfl
  | group f g rest bs hg _ _ _ _ =>
    have : g = [] := by
      have := congrArg List.length hts; simp at this; exact List.eq_nil_of_length_eq_zero (by omega)
    exact absurd this hg

theorem copyBack_getElem_lt (out : Array UInt8) (d n i : Nat) (h : i < out.size) :
    (copyBack out d n)[i]'(by simp; omega) = out[i] := by
  induction n generalizing out with
  | zero => simp [copyBack]
  | succ n ih =>
    simp only [copyBack]
    rw [ih (out.push _) (by simp; omega)]
    exact Array.getElem_push_lt h

theorem copyBack_getElem_ge (out : Array UInt8) (d n i : Nat) (hd1 : 1 ≤ d) (hd : d ≤ out.size)
    (h1 : out.size ≤ i) (h2 : i < out.size + n) :
    (copyBack out d n)[i]'(by simp; omega) = (copyBack out d n)[i - d]'(by simp; omega) := by
  induction n generalizing out with
  | zero => omega
  | succ n ih =>
    simp only [copyBack]
    by_cases hi : i = out.size
    · subst hi
      rw [copyBack_getElem_lt _ _ _ _ (by simp), copyBack_getElem_lt _ _ _ _ (by simp; omega)]
      simp [Array.getD, show out.size - d < out.size by omega]
      rw [Array.getElem_push_lt (by omega)]
    · exact ih (out.push _) (by simp; omega) (by simp; omega) (by simp; omega)

/-! ### token bytes ↔ fields

The four reference forms in digit coordinates: `a`, `v₂`, `v₀`, `h` are nibbles, `v₁` (long form)
and `l` bytes.  Written this way the bytes of a token are its digits regrouped. -/

theorem tokBytes_lz10 (a h l : Nat) (hl : l < 256) :
    tokBytes false (.ref (a + 3) (h * 256 + l + 1)) = [UInt8.ofNat (16 * a + h), UInt8.ofNat l] := by
  simp only [tokBytes, Bool.not_false, ↓reduceIte, Nat.add_sub_cancel, radix 256 h l hl]

theorem tokBytes_short (a h l : Nat) (ha : a < 16) (hl : l < 256) :
    tokBytes true (.ref (a + 1) (h * 256 + l + 1)) = [UInt8.ofNat (16 * a + h), UInt8.ofNat l] := by
  have c : a + 1 ≤ 16 := ha
  simp only [tokBytes, Bool.not_true, Bool.false_eq_true, ↓reduceIte, Nat.add_sub_cancel, c,
    radix 256 h l hl]

theorem tokBytes_mid (v1 v0 h l : Nat) (hv1 : v1 < 16) (hv0 : v0 < 16) (hl : l < 256) :
    tokBytes true (.ref (v1 * 16 + v0 + 17) (h * 256 + l + 1))
      = [UInt8.ofNat v1, UInt8.ofNat (16 * v0 + h), UInt8.ofNat l] := by
  have c1 : ¬ v1 * 16 + v0 + 17 ≤ 16 := by omega
  have c2 : v1 * 16 + v0 + 17 ≤ 272 := by omega
  simp only [tokBytes, Bool.not_true, Bool.false_eq_true, ↓reduceIte, Nat.add_sub_cancel, c1, c2,
    radix 256 h l hl, radix 16 v1 v0 hv0]

theorem tokBytes_long (v2 v1 v0 h l : Nat) (hv1 : v1 < 256) (hv0 : v0 < 16) (hl : l < 256) :
    tokBytes true (.ref ((v2 * 256 + v1) * 16 + v0 + 273) (h * 256 + l + 1))
      = [UInt8.ofNat (16 + v2), UInt8.ofNat v1, UInt8.ofNat (16 * v0 + h), UInt8.ofNat l] := by
  have c1 : ¬ (v2 * 256 + v1) * 16 + v0 + 273 ≤ 16 := by omega
  have c2 : ¬ (v2 * 256 + v1) * 16 + v0 + 273 ≤ 272 := by omega
  have e3 : ((v2 * 256 + v1) * 16 + v0) / 4096 = v2 := by
    rw [show (v2 * 256 + v1) * 16 + v0 = v2 * 4096 + (v1 * 16 + v0) by omega]
    exact (radix 4096 v2 _ (by omega)).1
  simp only [tokBytes, Bool.not_true, Bool.false_eq_true, ↓reduceIte, Nat.add_sub_cancel, c1, c2, e3,
    radix 256 h l hl, radix 16 _ v0 hv0, radix 256 v2 v1 hv1]

end Mila.Spec.Lz
