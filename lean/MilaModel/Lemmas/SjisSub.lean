/-
The executable sub-codec `sjisSub` (Model/Codec.lean) is faithful on its whole alphabet:
every NUL-free string over ASCII, half-width katakana, hiragana, full-width katakana, Greek and
Cyrillic is encoded without error, NUL-free, and decoded back to itself.  This discharges the
`Codec.Faithful` hypothesis of the archive theorems for the codec the driver actually executes
(for strings of unbounded length; the per-code-point part is a kernel-checked finite table).
-/
import MilaModel.Model.Codec

namespace Mila.Sjis

/-- Code points of the sub-codec alphabet (NUL excluded), as inclusive ranges. -/
def alphabetRanges : List (Nat × Nat) :=
  (1, 0x7F) :: (0xFF61, 0xFF9F) :: table.map (fun r => (r.1, r.2.1))

def inAlphabet (cp : Nat) : Bool := alphabetRanges.any (fun r => r.1 ≤ cp && cp ≤ r.2)

/-- UTF-8 of a list of code points (1–3 byte forms). -/
def utf8Encode (cps : List Nat) : Bytes := cps.flatMap utf8Encode1

/-- The sub-codec's domain: UTF-8 encodings of code-point lists over the alphabet. -/
def SubDomain (s : Str) : Prop := ∃ cps : List Nat, (∀ cp ∈ cps, inAlphabet cp = true) ∧ s = utf8Encode cps

/-! ### head lemmas (the tail of the string is arbitrary) -/

theorem utf8Decode_one (b : UInt8) (rest : Bytes) (h : b < 0x80) :
    utf8Decode (b :: rest) = (utf8Decode rest).map (b.toNat :: ·) := by
  rw [utf8Decode.eq_def]; simp [h]

theorem utf8Decode_two (b0 b1 : UInt8) (rest : Bytes) (h0 : ¬ b0 < 0x80) (h : 0xC2 ≤ b0 ∧ b0 ≤ 0xDF)
    (h1 : 0x80 ≤ b1 ∧ b1 ≤ 0xBF) :
    utf8Decode (b0 :: b1 :: rest) =
      (utf8Decode rest).map (((b0.toNat % 32) * 64 + (b1.toNat % 64)) :: ·) := by
  rw [utf8Decode.eq_def]; simp [h0, h, h1]

theorem utf8Decode_three (b0 b1 b2 : UInt8) (rest : Bytes) (h0 : ¬ b0 < 0x80)
    (h0' : ¬ (0xC2 ≤ b0 ∧ b0 ≤ 0xDF)) (h : 0xE0 ≤ b0 ∧ b0 ≤ 0xEF)
    (h1 : 0x80 ≤ b1 ∧ b1 ≤ 0xBF ∧ 0x80 ≤ b2 ∧ b2 ≤ 0xBF) :
    utf8Decode (b0 :: b1 :: b2 :: rest) =
      (utf8Decode rest).map
        (((b0.toNat % 16) * 4096 + (b1.toNat % 64) * 64 + (b2.toNat % 64)) :: ·) := by
  rw [utf8Decode.eq_def]; simp [h0, h0', h, h1]

theorem dec_ascii (b : UInt8) (rest : Bytes) (h : b < 0x80) : dec (b :: rest) = b :: dec rest := by
  rw [dec.eq_def]; simp [h]

theorem dec_half (b : UInt8) (rest : Bytes) (h0 : ¬ b < 0x80) (h : 0xA1 ≤ b ∧ b ≤ 0xDF) :
    dec (b :: rest) = utf8Encode1 (0xFF61 + (b.toNat - 0xA1)) ++ dec rest := by
  rw [dec.eq_def]; simp [h0, h]

theorem dec_pair (l t : UInt8) (rest : Bytes) (cp : Nat) (h0 : ¬ l < 0x80)
    (h1 : ¬ (0xA1 ≤ l ∧ l ≤ 0xDF)) (hl : l = 0x82 ∨ l = 0x83 ∨ l = 0x84)
    (hp : decPair l.toNat t.toNat = some cp) :
    dec (l :: t :: rest) = utf8Encode1 cp ++ dec rest := by
  rw [dec.eq_def]; simp [h0, h1, hl, hp]

/-! ### the finite table: one kernel-checked fact per code point

What the string-level induction needs to know about one code point, as two decidable checks:
`utf8Ok`, its UTF-8 form decodes back to it (whatever follows); `sjisOk`, its Shift-JIS form is
NUL-free and decodes to its UTF-8 form (whatever follows). -/

def utf8Ok (cp : Nat) : Bool :=
  match utf8Encode1 cp with
  | [b] => decide (b < 0x80) && b.toNat == cp
  | [b0, b1] => !decide (b0 < 0x80) && decide (0xC2 ≤ b0 ∧ b0 ≤ 0xDF) && decide (0x80 ≤ b1 ∧ b1 ≤ 0xBF)
      && ((b0.toNat % 32) * 64 + (b1.toNat % 64) == cp)
  | [b0, b1, b2] => !decide (b0 < 0x80) && !decide (0xC2 ≤ b0 ∧ b0 ≤ 0xDF) && decide (0xE0 ≤ b0 ∧ b0 ≤ 0xEF)
      && decide (0x80 ≤ b1 ∧ b1 ≤ 0xBF ∧ 0x80 ≤ b2 ∧ b2 ≤ 0xBF)
      && ((b0.toNat % 16) * 4096 + (b1.toNat % 64) * 64 + (b2.toNat % 64) == cp)
  | _ => false

def sjisOk (cp : Nat) : Bool :=
  match encCp cp with
  | some [b] =>
      b != 0 &&
      ((decide (b < 0x80) && utf8Encode1 cp == [b]) ||
       (!decide (b < 0x80) && decide (0xA1 ≤ b ∧ b ≤ 0xDF) &&
          utf8Encode1 (0xFF61 + (b.toNat - 0xA1)) == utf8Encode1 cp))
  | some [l, t] =>
      l != 0 && t != 0 && !decide (l < 0x80) && !decide (0xA1 ≤ l ∧ l ≤ 0xDF) &&
      decide (l = 0x82 ∨ l = 0x83 ∨ l = 0x84) && decPair l.toNat t.toNat == some cp
  | _ => false

def alphabetList : List Nat :=
  alphabetRanges.flatMap (fun r => (List.range (r.2 + 1 - r.1)).map (· + r.1))

theorem table_ok : alphabetList.all (fun cp => utf8Ok cp && sjisOk cp) = true := by decide +kernel

theorem mem_alphabetList {cp : Nat} (h : inAlphabet cp = true) : cp ∈ alphabetList := by
  simp only [inAlphabet, List.any_eq_true, Bool.and_eq_true, decide_eq_true_eq] at h
  obtain ⟨r, hr, h1, h2⟩ := h
  simp only [alphabetList, List.mem_flatMap, List.mem_map, List.mem_range]
  exact ⟨r, hr, cp - r.1, by omega, by omega⟩

theorem cp_ok {cp : Nat} (h : inAlphabet cp = true) : utf8Ok cp = true ∧ sjisOk cp = true := by
  have := List.all_eq_true.mp table_ok cp (mem_alphabetList h)
  simpa using this

theorem utf8Decode_encode1 {cp : Nat} (h : utf8Ok cp = true) (rest : Bytes) :
    utf8Decode (utf8Encode1 cp ++ rest) = (utf8Decode rest).map (cp :: ·) := by
  unfold utf8Ok at h
  split at h
  · next b hb =>
    simp only [Bool.and_eq_true, decide_eq_true_eq, beq_iff_eq] at h
    rw [hb, List.singleton_append, utf8Decode_one _ _ h.1, h.2]
  · next b0 b1 hb =>
    simp only [Bool.and_eq_true, Bool.not_eq_true', decide_eq_false_iff_not, decide_eq_true_eq,
      beq_iff_eq] at h
    obtain ⟨⟨⟨h0, h1⟩, h2⟩, h3⟩ := h
    rw [hb, List.cons_append, List.cons_append, List.nil_append, utf8Decode_two _ _ _ h0 h1 h2, h3]
  · next b0 b1 b2 hb =>
    simp only [Bool.and_eq_true, Bool.not_eq_true', decide_eq_false_iff_not, decide_eq_true_eq,
      beq_iff_eq] at h
    obtain ⟨⟨⟨⟨h0, h0'⟩, h1⟩, h2⟩, h3⟩ := h
    rw [hb, List.cons_append, List.cons_append, List.cons_append, List.nil_append,
      utf8Decode_three _ _ _ _ h0 h0' h1 h2, h3]
  · exact absurd h (by simp)

theorem encCp_dec {cp : Nat} (h : sjisOk cp = true) :
    ∃ b, encCp cp = some b ∧ (0 : UInt8) ∉ b ∧ ∀ rest, dec (b ++ rest) = utf8Encode1 cp ++ dec rest := by
  unfold sjisOk at h
  split at h
  · next b hb =>
    refine ⟨[b], hb, ?_, ?_⟩
    · simp only [Bool.and_eq_true, bne_iff_ne, ne_eq] at h
      simpa [eq_comm] using h.1
    · intro rest
      simp only [Bool.and_eq_true, Bool.or_eq_true, Bool.not_eq_true', decide_eq_false_iff_not,
        decide_eq_true_eq, beq_iff_eq] at h
      rcases h.2 with ⟨hlt, he⟩ | ⟨⟨hlt, hr⟩, he⟩
      · rw [List.singleton_append, dec_ascii _ _ hlt, he, List.singleton_append]
      · rw [List.singleton_append, dec_half _ _ hlt hr, he]
  · next l t hb =>
    simp only [Bool.and_eq_true, bne_iff_ne, ne_eq, Bool.not_eq_true', decide_eq_false_iff_not,
      decide_eq_true_eq, beq_iff_eq] at h
    obtain ⟨⟨⟨⟨⟨hl0, ht0⟩, h0⟩, h1⟩, hl⟩, hp⟩ := h
    refine ⟨[l, t], hb, ?_, ?_⟩
    · simp only [List.mem_cons, List.not_mem_nil, or_false, not_or]
      exact ⟨fun e => hl0 e.symm, fun e => ht0 e.symm⟩
    · intro rest
      rw [List.cons_append, List.cons_append, List.nil_append, dec_pair _ _ _ _ h0 h1 hl hp]
  · exact absurd h (by simp)

theorem utf8Decode_utf8Encode (cps : List Nat) (h : ∀ cp ∈ cps, inAlphabet cp = true) :
    utf8Decode (utf8Encode cps) = some cps := by
  induction cps with
  | nil => simp [utf8Encode, utf8Decode]
  | cons cp rest ih =>
    have hcp := (cp_ok (h cp (by simp))).1
    have ih := ih (fun c hc => h c (by simp [hc]))
    simp only [utf8Encode, List.flatMap_cons] at ih ⊢
    rw [utf8Decode_encode1 hcp, ih]; rfl

theorem encCps_dec (cps : List Nat) (h : ∀ cp ∈ cps, inAlphabet cp = true) :
    ∃ b, encCps cps = some b ∧ (0 : UInt8) ∉ b ∧ dec b = utf8Encode cps := by
  induction cps with
  | nil => exact ⟨[], rfl, by simp, by simp [dec, utf8Encode]⟩
  | cons cp rest ih =>
    obtain ⟨a, ha, ha0, hdec⟩ := encCp_dec (cp_ok (h cp (by simp))).2
    obtain ⟨b, hb, hb0, hb'⟩ := ih (fun c hc => h c (by simp [hc]))
    refine ⟨a ++ b, ?_, ?_, ?_⟩
    · simp [encCps, ha, hb]
    · simp only [List.mem_append, not_or]; exact ⟨ha0, hb0⟩
    · rw [hdec, hb']; simp [utf8Encode]

end Mila.Sjis

namespace Mila

/-- **The executable sub-codec is faithful on its whole alphabet**, for strings of any length. -/
theorem sjisSub_faithful : sjisSub.Faithful Sjis.SubDomain := by
  rintro s ⟨cps, hcps, rfl⟩
  obtain ⟨b, hb, hb0, hdec⟩ := Sjis.encCps_dec cps hcps
  refine ⟨b, ?_, hb0, hdec⟩
  simp [sjisSub, Sjis.enc, Sjis.utf8Decode_utf8Encode cps hcps, hb]

end Mila
