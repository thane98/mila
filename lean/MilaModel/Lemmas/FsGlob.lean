/- The `glob` model on the pattern family of C13: compilation of the five pattern shapes and
equivalence of the compiled matcher with the specification's `Pat.matches`. -/
import MilaModel.Model.LayeredFs
import MilaModel.Spec.OverlayFs
import MilaModel.Lemmas.Split

namespace Mila.LayeredFs
open Mila.Localize (slash)
open Mila.Spec.Overlay (Pat)

def lits (s : Bytes) : List Tok := s.map Tok.lit

theorem wild_lits (s n : Bytes) : wild (lits s) n = decide (s = n) := by
  induction s generalizing n with
  | nil => cases n <;> simp [lits, wild]
  | cons c cs ih =>
    cases n with
    | nil => simp [lits, wild]
    | cons x xs =>
      rw [show lits (c :: cs) = .lit c :: lits cs from rfl, wild, ih]
      by_cases h : c = x <;> simp [h]

theorem isSuffixOf_cons (s : Bytes) (x : UInt8) (xs : Bytes) :
    s.isSuffixOf (x :: xs) = (decide (s = x :: xs) || s.isSuffixOf xs) := by
  rw [Bool.eq_iff_iff]
  simp only [List.isSuffixOf_iff_suffix, Bool.or_eq_true, decide_eq_true_eq]
  rw [List.suffix_cons_iff]

theorem wild_star_lits (s n : Bytes) : wild (.star :: lits s) n = s.isSuffixOf n := by
  simp only [wild]
  induction n with
  | nil =>
    simp only [starGo, wild_lits]
    rw [Bool.eq_iff_iff]
    simp only [decide_eq_true_eq, List.isSuffixOf_iff_suffix, List.suffix_nil]
  | cons x xs ih =>
    simp only [starGo, ih, wild_lits, isSuffixOf_cons]

theorem wild_star_any (n : Bytes) : wild [.star] n = true :=
  (wild_star_lits [] n).trans (by simp)

/-- Bytes that the pattern compiler treats literally. -/
def LitByte (b : UInt8) : Prop := b ≠ star ∧ b ≠ 0x3F ∧ b ≠ 0x5B ∧ b ≠ 0x5D ∧ b ≠ slash

def LitText (s : Bytes) : Prop := ∀ b ∈ s, LitByte b

theorem map_tokOf_lit (s : Bytes) (h : LitText s) : s.map tokOf = lits s := by
  unfold lits
  apply List.map_congr_left
  intro b hb
  simp [tokOf, (h b hb).1]

/-- A first byte that is no bracket or `?` (a literal byte or `*`) followed by literal text: the
only pair the compiler refuses, `**`, cannot occur. -/
theorem plainComponent_cons_lit (a : UInt8) (s : Bytes) (ha : a ≠ 0x3F ∧ a ≠ 0x5B ∧ a ≠ 0x5D)
    (h : LitText s) : plainComponent (a :: s) = true := by
  induction s generalizing a with
  | nil => simp [plainComponent, ha]
  | cons b rest ih =>
    have hb := h b (by simp)
    simp [plainComponent, ha, hb.1, ih b ⟨hb.2.1, hb.2.2.1, hb.2.2.2.1⟩ fun c hc => h c (by simp [hc])]

theorem plainComponent_lit (s : Bytes) (hne : s ≠ []) (h : LitText s) : plainComponent s = true := by
  obtain ⟨a, rest, rfl⟩ := List.exists_cons_of_ne_nil hne
  have ha := h a (by simp)
  exact plainComponent_cons_lit a rest ⟨ha.2.1, ha.2.2.1, ha.2.2.2.1⟩ fun c hc => h c (by simp [hc])

theorem plainComponent_star_lit (s : Bytes) (h : LitText s) : plainComponent (star :: s) = true :=
  plainComponent_cons_lit star s (by decide) h

theorem noslash_of_lit (s : Bytes) (h : LitText s) : slash ∉ s := fun hm => (h slash hm).2.2.2.2 rfl

theorem star_ne_slash : star ≠ slash := by decide

theorem splitOn_star_lit (s : Bytes) (h : LitText s) : splitOn' slash (star :: s) = [star :: s] := by
  apply splitOn'_nosep
  intro hm
  rcases List.mem_cons.mp hm with e | e
  · exact star_ne_slash e.symm
  · exact noslash_of_lit s h e

theorem tokOf_star : tokOf star = .star := by simp [tokOf]

/-- The pattern strings of the family, as the caller writes them (`none` = no pattern). -/
def Compiles (pat : Option Bytes) (g : Glob) : Prop := Glob.parse (pat.getD Layer.defaultPattern) = some g

theorem parse_all : Glob.parse [star, star, slash, star] = some (.recursive [.star]) := by decide

theorem parse_children : Glob.parse [star] = some (.chain [[.star]]) := by decide

theorem parse_childrenExt (s : Bytes) (h : LitText s) :
    Glob.parse (star :: s) = some (.chain [.star :: lits s]) := by
  unfold Glob.parse
  rw [splitOn_star_lit s h]
  simp [plainComponent_star_lit s h, tokOf_star, map_tokOf_lit s h]

theorem parse_allExt (s : Bytes) (h : LitText s) :
    Glob.parse (star :: star :: slash :: star :: s) = some (.recursive (.star :: lits s)) := by
  unfold Glob.parse
  have h1 : splitOn' slash (star :: star :: slash :: star :: s) = [[star, star], star :: s] := by
    have := splitOn'_append_sep slash [star, star] (star :: s) (by decide)
    simp only [List.cons_append, List.nil_append] at this
    rw [this, splitOn_star_lit s h]
  rw [h1]
  simp [plainComponent_star_lit s h, tokOf_star, map_tokOf_lit s h]

theorem parse_inDir (lit : Bytes) (hne : lit ≠ []) (h : LitText lit) :
    Glob.parse (lit ++ [slash, star]) = some (.chain [lits lit, [.star]]) := by
  unfold Glob.parse
  have h1 : splitOn' slash (lit ++ slash :: [star]) = [lit, [star]] := by
    rw [splitOn'_append_sep slash lit [star] (noslash_of_lit lit h)]
    simp [splitOn', star_ne_slash]
  rw [h1]
  have h2 : lit ≠ [star, star] := by
    intro e
    have := h star (by simp [e])
    exact this.1 rfl
  have h3 : plainComponent [star] = true := by decide
  simp [h2, plainComponent_lit lit hne h, h3, tokOf_star, map_tokOf_lit lit h]

theorem getLast?_cons_cons {α : Type} (a b : α) (l : List α) : (a :: b :: l).getLast? = (b :: l).getLast? := by
  simp [List.getLast?_cons_cons]

/-- Extension / directory texts for which the family is defined. -/
def Pat.Ok : Pat → Prop
  | .all => True
  | .children => True
  | .childrenExt ext => LitText ext
  | .allExt ext => LitText ext
  | .inDir lit => lit ≠ [] ∧ LitText lit

theorem dotExt_lit (ext : Bytes) (h : LitText ext) : LitText (Spec.Overlay.dotExt ext) := by
  intro b hb
  rcases List.mem_cons.mp hb with e | e
  · subst e; unfold LitByte; decide
  · exact h b e

theorem chain_star_matches (rel : Comps) : (Glob.chain [[.star]]).matches rel = (rel.length == 1) := by
  rcases rel with _ | ⟨a, _ | ⟨b, r⟩⟩ <;> simp [Glob.matches, matchChain, wild_star_any]

theorem family_compiles (pt : Pat) (hok : Pat.Ok pt) (pat : Option Bytes) (hp : pat ∈ pt.glob) :
    ∃ g, Compiles pat g ∧ ∀ rel, g.matches rel = pt.matches rel := by
  cases pt with
  | all =>
    refine ⟨.recursive [.star], ?_, fun rel => ?_⟩
    · simp only [Pat.glob, List.mem_cons, List.mem_nil_iff, or_false] at hp
      rcases hp with rfl | rfl <;> exact parse_all
    · rcases List.eq_nil_or_concat rel with rfl | ⟨r, n, rfl⟩ <;>
        simp [Glob.matches, Pat.matches, wild_star_any]
  | children =>
    refine ⟨.chain [[.star]], ?_, fun rel => ?_⟩
    · obtain rfl := List.mem_singleton.mp hp
      exact parse_children
    · exact chain_star_matches rel
  | childrenExt ext =>
    refine ⟨.chain [.star :: lits (Spec.Overlay.dotExt ext)], ?_, fun rel => ?_⟩
    · obtain rfl := List.mem_singleton.mp hp
      exact parse_childrenExt _ (dotExt_lit ext hok)
    · rcases rel with _ | ⟨a, _ | ⟨b, r⟩⟩ <;> simp [Glob.matches, Pat.matches, matchChain, wild_star_lits]
  | allExt ext =>
    refine ⟨.recursive (.star :: lits (Spec.Overlay.dotExt ext)), ?_, fun rel => ?_⟩
    · obtain rfl := List.mem_singleton.mp hp
      exact parse_allExt _ (dotExt_lit ext hok)
    · simp only [Glob.matches, Pat.matches]
      cases rel.getLast? <;> simp [wild_star_lits]
  | inDir lit =>
    refine ⟨.chain [lits lit, [.star]], ?_, fun rel => ?_⟩
    · obtain rfl := List.mem_singleton.mp hp
      exact parse_inDir lit hok.1 hok.2
    · rcases rel with _ | ⟨a, _ | ⟨b, _ | ⟨c, r⟩⟩⟩
      · simp [Glob.matches, Pat.matches, matchChain]
      · simp [Glob.matches, Pat.matches, matchChain]
      · simp only [Glob.matches, Pat.matches, matchChain, wild_lits, wild_star_any, Bool.and_true]
        rw [Bool.eq_iff_iff]
        simp only [decide_eq_true_eq, beq_iff_eq]
        exact eq_comm
      · simp [Glob.matches, Pat.matches, matchChain]

end Mila.LayeredFs
