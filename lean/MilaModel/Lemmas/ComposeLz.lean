/-
C08–C11 → C12: the abstract `Lz` parameter of the filesystem model instantiated with the LZ models
of `Model/Lz.lean`, and what the filesystem theorems need about that instance (from
`Lemmas/LzFormat`).  The filesystem model moves `Bytes = List UInt8`, the LZ model compresses an
`Array UInt8` and decompresses a list into an array; the adapter converts with `List.toArray` /
`Array.toList`, which are mutually inverse and preserve the length.
-/
import MilaModel.Model.LayeredFs
import MilaModel.Lemmas.LzFormat
import MilaModel.Lemmas.Res

namespace Mila.Compose
open Mila Mila.LayeredFs

def lzFormat : LzKind → Mila.Lz.Format
  | .lz10 => .lz10
  | .lz13 => .lz13

/-- **The concrete LZ instance**: `CompressionFormat::{compress, decompress}` as modelled in
`Model/Lz.lean`, on byte lists. -/
def realLz (k : LzKind) : Lz where
  compress b := (Mila.Lz.Format.compress (lzFormat k) b.toArray).map Array.toList
  decompress s := (Mila.Lz.Format.decompress (lzFormat k) s).map Array.toList

def withRealLz (E : Env) : Env := { E with lz10 := realLz .lz10, lz13 := realLz .lz13 }

theorem withRealLz_lz (E : Env) (k : LzKind) : (withRealLz E).lz k = realLz k := by
  cases k <;> rfl

theorem realLz_compress_ok {k : LzKind} {b c : Bytes} (h : (realLz k).compress b = .ok c) :
    ∃ out, Mila.Lz.Format.compress (lzFormat k) b.toArray = .ok out ∧ c = out.toList := by
  obtain ⟨out, hc, rfl⟩ := Res.map_eq_ok.mp h
  exact ⟨out, hc, rfl⟩

/-- **C08 + C09 (with C11's decoder) on byte lists**: for every payload shorter than 16 MiB — the
empty one included — whatever the concrete compressor returns, the concrete decompressor turns back
into the payload. -/
theorem realLz_roundtrip (k : LzKind) (b : Bytes) (hb : b.length < 2 ^ 24) :
    ∀ c, (realLz k).compress b = .ok c → (realLz k).decompress c = .ok b := by
  intro c h
  obtain ⟨out, hc, rfl⟩ := realLz_compress_ok h
  obtain ⟨out', h1, h3⟩ := Mila.Lz.format_roundtrip (lzFormat k) b.toArray (by simpa using hb)
  obtain rfl : out' = out := Res.ok.inj (h1.symm.trans hc)
  simp [realLz, h3, Res.map]

/-- The concrete compressor never fails (C08 `lz10_total`, C09 `lz13_total`), so a write on a
compressed path is never rejected by the LZ stage. -/
theorem realLz_compress_total (k : LzKind) (b : Bytes) : ∃ c, (realLz k).compress b = .ok c := by
  obtain ⟨out, h⟩ := Mila.Lz.format_compress_ok (lzFormat k) b.toArray
  exact ⟨out.toList, by simp [realLz, h, Res.map]⟩

/-- Header bytes of a stored stream: 4 for LZ10; for LZ13 the 4-byte wrapper plus the LZ11 header
(4 bytes, 8 for the empty payload, which needs the extended length word). -/
def lzHeaderLen (k : LzKind) (n : Nat) : Nat :=
  match k with
  | .lz10 => 4
  | .lz13 => if n = 0 then 12 else 8

/-- **C10 on byte lists**: the compressed form of `n` bytes is at most the header, the `n` bytes and
one flag byte per eight of them. -/
theorem realLz_size_bound (k : LzKind) (b c : Bytes) (h : (realLz k).compress b = .ok c) :
    c.length ≤ lzHeaderLen k b.length + b.length + (b.length + 7) / 8 := by
  obtain ⟨out, hc, rfl⟩ := realLz_compress_ok h
  have : ∃ out, (lzFormat k).compress b.toArray = .ok out ∧
      out.size ≤ lzHeaderLen k b.toArray.size + b.toArray.size + (b.toArray.size + 7) / 8 := by
    cases k with
    | lz10 => exact Mila.Lz.post_size_le (Mila.Lz.compress10_post b.toArray)
    | lz13 => exact Mila.Lz.compress13_size_le b.toArray
  obtain ⟨out', h1, h2⟩ := this
  obtain rfl : out' = out := Res.ok.inj (h1.symm.trans hc)
  simpa using h2

end Mila.Compose
