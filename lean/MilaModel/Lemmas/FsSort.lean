/- `HashSet` + `sort()` of the listings (C13): the result is the strictly ascending enumeration of
the collected paths, for the byte-wise lexicographic order of the specification. -/
import MilaModel.Model.LayeredFs
import MilaModel.Spec.OverlayFs

namespace Mila.LayeredFs.Fs
open Mila.Spec.Overlay (ltB)

/-- `ltB` and `leB` decide the lexicographic order of `List UInt8`; the order facts below are
those of that order. -/
theorem ltB_iff (a b : Bytes) : ltB a b = true ↔ a < b := by
  fun_induction ltB a b with
  | case1 => simp
  | case2 => simp
  | case3 x xs y ys ih => simp [List.cons_lt_cons_iff, ih]

theorem leB_iff (a b : Bytes) : leB a b = true ↔ a ≤ b := by
  fun_induction leB a b with
  | case1 => simp
  | case2 => simp
  | case3 x xs y ys h => simp [List.cons_le_cons_iff, h]
  | case4 x xs y ys h1 h2 =>
    have : x ≠ y := fun e => h1 (e ▸ h2)
    simp [List.cons_le_cons_iff, h1, this]
  | case5 x xs y ys h1 h2 ih =>
    have : x = y := UInt8.le_antisymm (UInt8.not_lt.mp h2) (UInt8.not_lt.mp h1)
    simp [List.cons_le_cons_iff, this, ih]

theorem leB_refl (a : Bytes) : leB a a = true := (leB_iff a a).mpr (List.le_refl a)

theorem leB_total (a b : Bytes) : (leB a b || leB b a) = true := by
  simpa [leB_iff] using List.le_total a b

theorem leB_trans (a b c : Bytes) (h1 : leB a b = true) (h2 : leB b c = true) : leB a c = true :=
  (leB_iff a c).mpr (List.le_trans ((leB_iff a b).mp h1) ((leB_iff b c).mp h2))

theorem ltB_of_leB_ne (a b : Bytes) (h : leB a b = true) (hne : a ≠ b) : ltB a b = true :=
  (ltB_iff a b).mpr (Std.lt_of_le_of_ne ((leB_iff a b).mp h) hne)

theorem mem_dedup (xs : List Bytes) (x : Bytes) : x ∈ dedup xs ↔ x ∈ xs := by
  fun_induction dedup xs with
  | case1 => exact Iff.rfl
  | case2 y ys h ih =>
    rw [ih, List.mem_cons]
    exact ⟨Or.inr, fun hx => hx.elim (fun e => ih.mp (e ▸ h)) id⟩
  | case3 y ys h ih => rw [List.mem_cons, List.mem_cons, ih]

theorem nodup_dedup (xs : List Bytes) : (dedup xs).Nodup := by
  fun_induction dedup xs with
  | case1 => exact List.nodup_nil
  | case2 y ys h ih => exact ih
  | case3 y ys h ih => exact List.nodup_cons.mpr ⟨h, ih⟩

theorem perm_insertB (x : Bytes) (l : List Bytes) : (insertB x l).Perm (x :: l) := by
  fun_induction insertB x l with
  | case1 => exact List.Perm.refl _
  | case2 y ys h => exact List.Perm.refl _
  | case3 y ys h ih => exact (List.Perm.cons y ih).trans (List.Perm.swap x y ys)

theorem perm_sortB (l : List Bytes) : (sortB l).Perm l := by
  induction l with
  | nil => exact List.Perm.refl _
  | cons x xs ih => exact (perm_insertB x (sortB xs)).trans (List.Perm.cons x ih)

theorem pairwise_insertB (x : Bytes) (l : List Bytes) (h : l.Pairwise (fun a b => leB a b = true)) :
    (insertB x l).Pairwise (fun a b => leB a b = true) := by
  fun_induction insertB x l with
  | case1 => simp
  | case2 y ys hxy =>
    refine List.pairwise_cons.mpr ⟨fun z hz => ?_, h⟩
    rcases List.mem_cons.mp hz with rfl | hz
    · exact hxy
    · exact leB_trans x y z hxy ((List.pairwise_cons.mp h).1 z hz)
  | case3 y ys hxy ih =>
    have hy := List.pairwise_cons.mp h
    have hyx : leB y x = true := by simpa [hxy] using leB_total x y
    refine List.pairwise_cons.mpr ⟨fun z hz => ?_, ih hy.2⟩
    rcases List.mem_cons.mp ((perm_insertB x ys).mem_iff.mp hz) with rfl | hz
    · exact hyx
    · exact hy.1 z hz

theorem pairwise_sortB (l : List Bytes) : (sortB l).Pairwise (fun a b => leB a b = true) := by
  induction l with
  | nil => simp [sortB]
  | cons x xs ih => exact pairwise_insertB x _ ih

theorem mem_sortSet (xs : List Bytes) (x : Bytes) : x ∈ sortSet xs ↔ x ∈ xs := by
  unfold sortSet
  rw [(perm_sortB (dedup xs)).mem_iff, mem_dedup]

/-- The result of `HashSet` + `sort()` is strictly ascending: sorted and without duplicates. -/
theorem sortSet_strict (xs : List Bytes) : (sortSet xs).Pairwise (fun a b => ltB a b = true) := by
  unfold sortSet
  have hs := pairwise_sortB (dedup xs)
  have hn : (sortB (dedup xs)).Nodup := (perm_sortB (dedup xs)).nodup_iff.mpr (nodup_dedup xs)
  have := hs.and hn
  exact this.imp (fun {a b} ⟨h1, h2⟩ => ltB_of_leB_ne a b h1 h2)

theorem ltB_irrefl (a : Bytes) : ltB a a = false :=
  Bool.eq_false_iff.mpr fun h => List.lt_irrefl a ((ltB_iff a a).mp h)

theorem ltB_asymm (a b : Bytes) (h : ltB a b = true) : ltB b a = false :=
  Bool.eq_false_iff.mpr fun h' => List.lt_asymm ((ltB_iff a b).mp h) ((ltB_iff b a).mp h')

/-- A strictly ascending list is determined by its members: whatever order the `HashSet` iterates
in, the sorted result is the same. -/
theorem strict_unique (r1 r2 : List Bytes)
    (h1 : r1.Pairwise (fun a b => ltB a b = true)) (h2 : r2.Pairwise (fun a b => ltB a b = true))
    (hm : ∀ x, x ∈ r1 ↔ x ∈ r2) : r1 = r2 := by
  have nd : ∀ r : List Bytes, r.Pairwise (fun a b => ltB a b = true) → r.Nodup := fun r h =>
    h.imp fun {a b} h e => by subst e; simp [ltB_irrefl] at h
  have hp : r1.Perm r2 := (List.perm_ext_iff_of_nodup (nd r1 h1) (nd r2 h2)).mpr hm
  exact List.Perm.eq_of_pairwise (le := fun a b => ltB a b = true)
    (fun a b _ _ hab hba => by simp [ltB_asymm a b hab] at hba) h1 h2 hp

end Mila.LayeredFs.Fs
