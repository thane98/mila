/-
C18: the declarative cell layout of one asset record, and the readers of its parts (flag bytes,
string fields, typed fields) on every archive that shows those cells.
-/
import MilaModel.Lemmas.AssetFlags
import MilaModel.Lemmas.AsetCells
import MilaModel.Spec.Asset

namespace Mila.Asset
open Mila BinArchive Layered

def bytesOf (fl : List Nat) : Bytes := fl.map UInt8.ofNat

/-- The flag bytes of a record: one raw cell (short form) or two (long form). -/
def flagCells (s : AssetSpec) : List Cell :=
  if isLong s then [.raw (bytesOf ((finalFlags s).take 4)), .raw (bytesOf ((finalFlags s).drop 4))]
  else [.raw (bytesOf (finalFlags s))]

/-- The cell of field `i`, if the field is present. -/
def fieldCell (s : AssetSpec) (i : Nat) : List Cell :=
  match kindOf i with
  | .str =>
    match strField s i with
    | some v => [.str (some v)]
    | none => []
  | .color => if (valField s i).1 then [.raw (swap02 (valField s i).2)] else []
  | _ => if (valField s i).1 then [.raw (leBytes 4 (ofLe (valField s i).2))] else []

def fieldsCells (s : AssetSpec) (is : List Nat) : List Cell := is.flatMap (fieldCell s)

theorem fieldsCells_cons (s : AssetSpec) (i : Nat) (is : List Nat) :
    fieldsCells s (i :: is) = fieldCell s i ++ fieldsCells s is := List.flatMap_cons

theorem fieldsCells_append (s : AssetSpec) (xs ys : List Nat) :
    fieldsCells s (xs ++ ys) = fieldsCells s xs ++ fieldsCells s ys := List.flatMap_append

/-- The cells of a record: flags, name, fields 1..31, and in the long form fields 32..51. -/
def recordCells (s : AssetSpec) : List Cell :=
  flagCells s ++ [.str s.name] ++ fieldsCells s (List.range' 1 31)
    ++ (if isLong s then fieldsCells s (List.range' 32 20) else [])

/-- The value read back: typed fields that are not in use come back as the default. -/
def normalize (s : AssetSpec) : AssetSpec := { s with vals := Spec.Asset.normalizeVals s.vals }

/-- Domain of one spec (the Rust struct has exactly these fields). -/
def SpecWF (s : AssetSpec) : Prop := Spec.Asset.WF s.strs s.vals

theorem valField_length (s : AssetSpec) (h : SpecWF s) (i : Nat) : (valField s i).2.length = 4 := by
  unfold valField
  rw [List.getD_eq_getElem?_getD]
  cases hv : s.vals[i - 34]? with
  | none => rfl
  | some v => exact h.2.2 v (List.mem_of_getElem? hv)

theorem swap02_swap02 : ∀ (x : Bytes), swap02 (swap02 x) = x
  | [] => rfl
  | [_] => rfl
  | [_, _] => rfl
  | [_, _, _] => rfl
  | [_, _, _, _] => rfl
  | _ :: _ :: _ :: _ :: _ :: _ => rfl

theorem swap02_length (x : Bytes) : (swap02 x).length = x.length := by
  unfold swap02; split <;> rfl

theorem toNat_bytesOf (fl : List Nat) (h : ∀ x ∈ fl, x < 256) : (bytesOf fl).map (·.toNat) = fl := by
  induction fl with
  | nil => rfl
  | cons x fl ih =>
    simp only [bytesOf, List.map_cons, List.map_map] at ih ⊢
    rw [ih (fun y hy => h y (by simp [hy]))]
    congr 1
    have := h x (by simp)
    simp [UInt8.toNat_ofNat']; omega

theorem flagCells_slice (s : AssetSpec) (b : BinArchive) (p : Nat)
    (hc : cellsAt b p (flagCells s)) :
    p + (finalFlags s).length ≤ b.size
      ∧ slice b.data p (finalFlags s).length = bytesOf (finalFlags s) := by
  unfold flagCells at hc
  by_cases hl : isLong s
  · simp only [hl, if_true] at hc
    obtain ⟨⟨h1, h2, _⟩, ⟨h3, h4, _⟩, _⟩ := hc
    have hlen : (finalFlags s).length = 4 + 4 := by rw [finalFlags_length]; simp [hl]
    refine ⟨by omega, ?_⟩
    rw [hlen, slice_add, h2, h4]
    simp only [bytesOf, ← List.map_append, List.take_append_drop]
  · simp only [hl, if_false] at hc
    obtain ⟨⟨h1, h2, _⟩, _⟩ := hc
    have hlen : (finalFlags s).length = 4 := by rw [finalFlags_length]; simp [hl]
    exact ⟨by omega, by rw [hlen]; exact h2⟩

theorem flagCells_length (s : AssetSpec) : 4 * (flagCells s).length = (finalFlags s).length := by
  rw [finalFlags_length]; unfold flagCells; by_cases hl : isLong s <;> simp [hl]

/-- Reading the first byte and the `flag_count` further bytes yields the flag vector. -/
theorem read_flags (s : AssetSpec) (b : BinArchive) (hsmall : b.size < 2 ^ 64) (p : Nat)
    (hc : cellsAt b p (flagCells s)) :
    ∃ raw more, Reader.readU8 b ⟨p⟩ = .ok (raw, ⟨p + 1⟩)
      ∧ Reader.readBytes b ⟨p + 1⟩ (if raw &&& 1 = 1 then 7 else 3)
          = .ok (more, ⟨p + (finalFlags s).length⟩)
      ∧ raw :: more.map (·.toNat) = finalFlags s
      ∧ ((if raw &&& 1 = 1 then 7 else 3) > 3 ↔ isLong s) := by
  obtain ⟨hfit, hs⟩ := flagCells_slice s b p hc
  have hlen := finalFlags_length s
  obtain ⟨f0, ft, hf⟩ : ∃ f0 ft, finalFlags s = f0 :: ft := by
    cases hff : finalFlags s with
    | nil => rw [hff] at hlen; split at hlen <;> simp at hlen
    | cons x xs => exact ⟨x, xs, rfl⟩
  have hmark := marker_final s
  rw [hf] at hs hfit hmark
  simp only [List.length_cons, List.getD_cons_zero] at hs hfit hmark
  have hp : p < b.data.length := by unfold size at hfit; omega
  rw [slice_succ _ _ _ hp] at hs
  simp only [bytesOf, List.map_cons, List.cons.injEq] at hs
  have hlt := finalFlags_lt s
  rw [hf] at hlt
  have hf0 : f0 < 256 := hlt f0 (by simp)
  have hraw : (b.data.getD p 0).toNat = f0 := by
    rw [List.getD_eq_getElem?_getD, List.getElem?_eq_getElem hp]
    simp only [Option.getD_some]
    rw [hs.1]; simp [UInt8.toNat_ofNat']; omega
  rw [hf] at hlen
  simp only [List.length_cons] at hlen
  have hcount : (if f0 &&& 1 = 1 then 7 else 3) = ft.length := by
    by_cases hl : isLong s
    · rw [if_pos (hmark.2 hl)]; simp [hl] at hlen; omega
    · rw [if_neg (fun e => hl (hmark.1 e))]; simp [hl] at hlen; omega
  refine ⟨f0, slice b.data (p + 1) ft.length, ?_, ?_, ?_, ?_⟩
  · rw [readU8_at (by unfold size; exact hp), hraw]
  · rw [hcount, readBytes_slice b hsmall _ _ (by omega), hf]
    simp only [List.length_cons, Res.ok.injEq, Prod.mk.injEq, Reader.mk.injEq, true_and]
    omega
  · rw [hf, hs.2]
    congr 1
    exact toNat_bytesOf ft (fun x hx => hlt x (by simp [hx]))
  · rw [hcount]
    by_cases hl : isLong s <;> simp [hl] at hlen ⊢ <;> omega

theorem kindOf_str (i : Nat) (h : i ≤ 33) : kindOf i = .str := by simp [kindOf, h]

theorem kindOf_ne_str (i : Nat) (h : 34 ≤ i) : kindOf i ≠ .str := by
  unfold kindOf
  have : ¬ i ≤ 33 := by omega
  simp only [this, if_false]
  split
  · simp
  · split <;> simp

theorem fieldCell_str_none (s : AssetSpec) (i : Nat) (h : i ≤ 33) (hv : strField s i = none) :
    fieldCell s i = [] := by
  unfold fieldCell; rw [kindOf_str i h]; simp [hv]

theorem fieldCell_str_some (s : AssetSpec) (i : Nat) (h : i ≤ 33) (v : Str)
    (hv : strField s i = some v) : fieldCell s i = [.str (some v)] := by
  unfold fieldCell; rw [kindOf_str i h]; simp [hv]

theorem fieldCell_val_false (s : AssetSpec) (i : Nat) (h : 34 ≤ i) (hu : (valField s i).1 = false) :
    fieldCell s i = [] := by
  unfold fieldCell
  cases hk : kindOf i with
  | str => exact absurd hk (kindOf_ne_str i h)
  | color => simp [hu]
  | f32 => simp [hu]
  | u32 => simp [hu]

theorem fieldCell_color (s : AssetSpec) (i : Nat) (hk : kindOf i = .color)
    (hu : (valField s i).1 = true) : fieldCell s i = [.raw (swap02 (valField s i).2)] := by
  unfold fieldCell; rw [hk]; simp [hu]

theorem fieldCell_word (s : AssetSpec) (i : Nat) (hk : kindOf i = .f32 ∨ kindOf i = .u32)
    (hu : (valField s i).1 = true) :
    fieldCell s i = [.raw (leBytes 4 (ofLe (valField s i).2))] := by
  unfold fieldCell
  rcases hk with hk | hk <;> rw [hk] <;> simp [hu]

theorem readStrs_layout (s : AssetSpec) (b : BinArchive) :
    ∀ (is : List Nat) (p : Nat),
      (∀ i ∈ is, 1 ≤ i ∧ i ≤ 33 ∧ i / 8 < (finalFlags s).length) →
      cellsAt b p (fieldsCells s is) →
      readStrs b (finalFlags s) is ⟨p⟩
        = .ok (is.map (strField s), ⟨p + 4 * (fieldsCells s is).length⟩) := by
  intro is
  induction is with
  | nil => intro p _ _; simp [readStrs, fieldsCells]
  | cons i is ih =>
    intro p hi hc
    obtain ⟨h1, h2, h3⟩ := hi i (by simp)
    have hi' : ∀ j ∈ is, 1 ≤ j ∧ j ≤ 33 ∧ j / 8 < (finalFlags s).length :=
      fun j hj => hi j (by simp [hj])
    rw [fieldsCells_cons] at hc ⊢
    rw [cellsAt_append] at hc
    have hbit := flagBit_final s i h1 (by omega)
    have hpres := present_str s i h1 h2
    unfold readStrs readFlagStr
    have hge : ¬ i / 8 ≥ (finalFlags s).length := by omega
    simp only [hge, decide_false, Bool.false_or, hbit, hpres]
    cases hv : strField s i with
    | none =>
      rw [fieldCell_str_none s i h2 hv] at hc ⊢
      simp only [Option.isSome_none, Bool.not_false, if_true]
      have h2' := hc.2
      simp only [List.length_nil, Nat.mul_zero, Nat.add_zero] at h2'
      rw [ih p hi' h2']
      simp [hv]
    | some v =>
      rw [fieldCell_str_some s i h2 v hv] at hc ⊢
      have h2' := hc.2
      simp only [List.length_cons, List.length_nil] at h2'
      simp only [Option.isSome_some, Bool.not_true, Bool.false_eq_true, if_false,
        readString_str hc.1.1, ih (p + 4) hi' (by simpa using h2'), List.map_cons, hv,
        List.length_append, List.length_cons, List.length_nil, Res.ok.injEq, Prod.mk.injEq,
        Reader.mk.injEq, true_and]
      omega

/-- A typed field as it is read back. -/
def normVal (v : Bool × Bytes) : Bool × Bytes := if v.1 then v else (false, zero4)

theorem readVal_layout (s : AssetSpec) (hwf : SpecWF s) (b : BinArchive) (he : b.endian = .little)
    (hsmall : b.size < 2 ^ 64) (i p : Nat) (h1 : 34 ≤ i) (h2 : i ≤ 51) (hc : cellsAt b p (fieldCell s i)) :
    readVal b (finalFlags s) i ⟨p⟩
      = .ok (normVal (valField s i), ⟨p + 4 * (fieldCell s i).length⟩) := by
  have hbit := flagBit_final s i (by omega) h2
  have hpres := present_val s i h1 h2
  have hlen := valField_length s hwf i
  unfold readVal
  rw [hbit, hpres]
  cases hu : (valField s i).1 with
  | false =>
    rw [fieldCell_val_false s i h1 hu]
    simp [normVal, hu]
  | true =>
    simp only [if_true]
    have hnv : normVal (valField s i) = (true, (valField s i).2) := by
      simp only [normVal, hu, if_true]
      rw [← hu]
    cases hkk : kindOf i with
    | str => exact absurd hkk (kindOf_ne_str i h1)
    | color =>
      rw [fieldCell_color s i hkk hu] at hc ⊢
      obtain ⟨⟨hfit, hsl, _⟩, _⟩ := hc
      unfold readColor
      rw [readBytes_slice b hsmall 4 p hfit, hsl]
      simp only [swap02_swap02, hnv, List.length_cons, List.length_nil]
    | f32 | u32 =>
      rw [fieldCell_word s i (by simp [hkk]) hu] at hc ⊢
      rw [readU32_raw he hc.1]
      simp only [hnv, List.length_cons, List.length_nil, Res.ok.injEq, Prod.mk.injEq, and_true]
      rw [leBytes_ofLe_of_length (leBytes_length 4 _), leBytes_ofLe_of_length hlen]
      exact ⟨trivial, rfl⟩

theorem readVals_layout (s : AssetSpec) (hwf : SpecWF s) (b : BinArchive) (he : b.endian = .little)
    (hsmall : b.size < 2 ^ 64) :
    ∀ (is : List Nat) (p : Nat), (∀ i ∈ is, 34 ≤ i ∧ i ≤ 51) →
      cellsAt b p (fieldsCells s is) →
      readVals b (finalFlags s) is ⟨p⟩
        = .ok (is.map (fun i => normVal (valField s i)), ⟨p + 4 * (fieldsCells s is).length⟩) := by
  intro is
  induction is with
  | nil => intro p _ _; simp [readVals, fieldsCells]
  | cons i is ih =>
    intro p hi hc
    obtain ⟨h1, h2⟩ := hi i (by simp)
    rw [fieldsCells_cons] at hc ⊢
    rw [cellsAt_append] at hc
    simp only [readVals, readVal_layout s hwf b he hsmall i p h1 h2 hc.1,
      ih (p + 4 * (fieldCell s i).length) (fun j hj => hi j (by simp [hj])) hc.2, List.map_cons,
      List.length_append, Res.ok.injEq, Prod.mk.injEq, Reader.mk.injEq, true_and]
    omega

end Mila.Asset
