/-
The match search `get_occurrence_length` (model: `matchLen`, `occLoop`, `occurrence`):
soundness (what a returned `(len, disp)` guarantees), absence of panics under the call
precondition, and completeness (a candidate matching the whole look-ahead is found).
-/
import MilaModel.Model.Lz

namespace Mila.Lz

theorem matchLen_spec (x : BA) (a b k j r : Nat) (h : matchLen x a b k j = some r) :
      j ≤ r ∧ r ≤ j + k ∧
      (∀ i, j ≤ i → i < r → a + i < x.size ∧ b + i < x.size ∧ x[a + i]? = x[b + i]?) ∧
      (r < j + k → x[a + r]? ≠ x[b + r]?) := by
  fun_induction matchLen x a b k j with
  | case1 j =>
    cases h
    exact ⟨Nat.le_refl _, Nat.le_refl _, fun i h1 h2 => by omega, fun h => by omega⟩
  | case2 k j h1 h2 hne =>
    cases h
    exact ⟨Nat.le_refl _, by omega, fun i h1 h2 => by omega, fun _ => by simpa [h1, h2] using hne⟩
  | case3 k j h1 h2 heq ih =>
    have heq' : x[a + j] = x[b + j] := by simpa using heq
    obtain ⟨q1, q2, q3, q4⟩ := ih h
    refine ⟨by omega, by omega, ?_, fun hlt => q4 (by omega)⟩
    intro i hi1 hi2
    by_cases hij : i = j
    · subst hij
      exact ⟨h1, h2, by simp [h1, h2, heq']⟩
    · exact q3 i (by omega) hi2
  | case4 | case5 => cases h

theorem matchLen_some (x : BA) (a b k j : Nat) (ha : a + j + k ≤ x.size) (hb : b + j + k ≤ x.size) :
    ∃ r, matchLen x a b k j = some r := by
  fun_induction matchLen x a b k j with
  | case1 j => exact ⟨j, rfl⟩
  | case2 _ j => exact ⟨j, rfl⟩
  | case3 _ _ _ _ _ ih => exact ih (by omega) (by omega)
  | case4 | case5 => omega

/-- What the running maximum `(maxLen, disp)` of the candidate loop guarantees.  The loop runs over
`0..old_length - 1` (lz13.rs:20), so the candidate at displacement 1 is never tried: `2 ≤ disp`. -/
def Found (x : BA) (newPtr newLen oldEnd oldLen : Nat) (len disp : Nat) : Prop :=
  len = 0 ∨ (2 ≤ disp ∧ disp ≤ oldLen ∧ len ≤ newLen ∧
    ∀ j, j < len → oldEnd - disp + j < x.size ∧ newPtr + j < x.size ∧
      x[oldEnd - disp + j]? = x[newPtr + j]?)

theorem occLoop_spec (x : BA) (newPtr newLen oldPtr oldLen : Nat)
    (hpre1 : oldPtr + oldLen ≤ newPtr) (hpre2 : newPtr + newLen ≤ x.size)
    (k i disp maxLen : Nat) (hik : i + k = oldLen - 1) (hol : 1 ≤ oldLen)
    (hf : Found x newPtr newLen (oldPtr + oldLen) oldLen maxLen disp) :
    ∃ len d, occLoop x newPtr newLen oldPtr oldLen k i disp maxLen = .ok (len, d) ∧
      Found x newPtr newLen (oldPtr + oldLen) oldLen len d := by
  have hnew (i cur : Nat) (hi : i + 1 < oldLen) (hcur : matchLen x (oldPtr + i) newPtr newLen 0 = some cur) :
      Found x newPtr newLen (oldPtr + oldLen) oldLen cur (oldLen - i) := by
    obtain ⟨_, c2, c3, _⟩ := matchLen_spec x (oldPtr + i) newPtr newLen 0 cur hcur
    refine Or.inr ⟨by omega, by omega, by omega, fun j hj => ?_⟩
    rw [Nat.add_comm oldPtr oldLen, Nat.add_sub_sub_cancel (show i ≤ oldLen by omega)]
    exact c3 j (by omega) hj
  fun_induction occLoop x newPtr newLen oldPtr oldLen k i disp maxLen with
  | case1 _ disp maxLen => exact ⟨maxLen, disp, rfl, hf⟩
  | case2 k i _ _ hn =>
    obtain ⟨cur, hcur⟩ := matchLen_some x (oldPtr + i) newPtr newLen 0 (by omega) (by omega)
    rw [hcur] at hn
    cases hn
  | case3 k i _ _ hcur => exact ⟨newLen, oldLen - i, rfl, hnew i newLen (by omega) hcur⟩
  | case4 k i _ _ cur hcur _ _ ih => exact ih (by omega) (hnew i cur (by omega) hcur)
  | case5 k i _ _ cur hcur _ ih => exact ih (by omega) hf

theorem occurrence_spec (x : BA) (newPtr newLen oldPtr oldLen : Nat)
    (hpre1 : oldPtr + oldLen ≤ newPtr) (hpre2 : newPtr + newLen ≤ x.size) :
    ∃ len d, occurrence x newPtr newLen oldPtr oldLen = .ok (len, d) ∧
      Found x newPtr newLen (oldPtr + oldLen) oldLen len d := by
  unfold occurrence
  split
  · exact ⟨0, 0, rfl, Or.inl rfl⟩
  · rename_i h
    exact occLoop_spec x newPtr newLen oldPtr oldLen hpre1 hpre2 (oldLen - 1) 0 0 0 (by omega) (by omega)
      (Or.inl rfl)

theorem matchLen_full (x : BA) (a b : Nat) (k j : Nat)
    (h : ∀ i, j ≤ i → i < j + k → a + i < x.size ∧ b + i < x.size ∧ x[a + i]? = x[b + i]?) :
    matchLen x a b k j = some (j + k) := by
  cases k with
  | zero => simp [matchLen]
  | succ k =>
    have hb := h (j + k) (by omega) (by omega)
    obtain ⟨r, hr⟩ := matchLen_some x a b (k + 1) j (by omega) (by omega)
    obtain ⟨h1, h2, _, h4⟩ := matchLen_spec x a b (k + 1) j r hr
    -- a shorter result would exhibit a mismatch
    by_cases hlt : r < j + (k + 1)
    · exact absurd (h r h1 hlt).2.2 (h4 hlt)
    · rw [hr, show r = j + (k + 1) by omega]

theorem occLoop_complete (x : BA) (newPtr newLen oldPtr oldLen : Nat) (i0 : Nat)
    (hfull : matchLen x (oldPtr + i0) newPtr newLen 0 = some newLen)
    (k i disp maxLen len d : Nat) (h1 : i ≤ i0) (h2 : i0 < i + k) (hm : maxLen < newLen)
    (h : occLoop x newPtr newLen oldPtr oldLen k i disp maxLen = .ok (len, d)) : len = newLen := by
  fun_induction occLoop x newPtr newLen oldPtr oldLen k i disp maxLen with
  | case1 => omega
  | case2 => cases h
  | case3 =>
    cases h
    rfl
  | case4 k i _ _ cur hcur _ _ ih =>
    have := (matchLen_spec x (oldPtr + i) newPtr newLen 0 cur hcur).2.1
    have hi : i ≠ i0 := fun e => by rw [e, hfull] at hcur; cases hcur; omega
    exact ih (by omega) (by omega) (by omega) h
  | case5 k i _ maxLen cur hcur _ ih =>
    have hi : i ≠ i0 := fun e => by rw [e, hfull] at hcur; cases hcur; omega
    exact ih (by omega) (by omega) hm h

end Mila.Lz
