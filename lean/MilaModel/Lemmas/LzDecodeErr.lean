/-
Decoder error clauses (C11): truncated streams and references before the start of the output.
-/
import MilaModel.Lemmas.LzDecode

namespace Mila.Lz
open Mila.Spec.Lz

theorem outerLoop_nil (ext : Bool) (length : Nat) (out : BA) (hlt : out.size < length) :
    outerLoop ext length [] out = .err .Invalid := by
  rw [outerLoop.eq_def]; simp [hlt]

theorem bitLoop_badref (ext : Bool) (length flags k : Nat) (rest : Bytes) (out : BA)
    (len disp : Nat) (hlive : out.size < length) (hflag : flags.testBit k = true)
    (hl : lenOk ext len) (hd1 : 1 ≤ disp) (hd2 : disp ≤ 4096) (hbad : out.size < disp) :
    bitLoop ext length flags (k + 1) (tokBytes ext (.ref len disp) ++ rest) out = .err .Invalid := by
  have : out.size ≤ disp - 1 := by omega
  simp only [bitLoop_succ ext length flags k _ out hlive, hflag, cond_true,
    decodeRef_tokBytes ext len disp rest hl hd1 hd2, ge_iff_le, this, ↓reduceIte]

theorem tsize_append_singleton (ts : List Tok) (t : Tok) : tsize (ts ++ [t]) = tsize ts + t.size := by
  simp

private theorem append_snoc_split {α : Type} (g rest toks : List α) (b : α)
    (h : g ++ rest = toks ++ [b]) (hr : rest ≠ []) :
    ∃ rest', rest = rest' ++ [b] ∧ toks = g ++ rest' := by
  have hrl : rest = rest.dropLast ++ [rest.getLast hr] := (List.dropLast_concat_getLast hr).symm
  rw [hrl, ← List.append_assoc] at h
  have h1 := List.append_inj' h rfl
  exact ⟨rest.dropLast, by rw [hrl]; simp; simpa using h1.2, h1.1.symm⟩

theorem outerLoop_badref (ext : Bool) (n : Nat) (len disp : Nat) (all : List Tok) (body : Bytes)
    (hg : Groups ext all body) (hl : lenOk ext len) (hd1 : 1 ≤ disp) (hd2 : disp ≤ 4096) :
    ∀ (toks : List Tok) (out : BA), all = toks ++ [.ref len disp] →
      ValidFrom ext out.size toks → out.size + tsize toks < n → out.size + tsize toks < disp →
      outerLoop ext n body out = .err .Invalid := by
  induction hg with
  | nil => intro toks out h; simp at h
  | group f g rest bs hne hlen hfull hflag hrest ih =>
    intro toks out hall hv hn hbad
    -- the bad reference is the last token, so it ends the last group: what stands before it in
    -- that group decodes (`bitLoop_group`), then `bitLoop_badref`
    by_cases hr : rest = []
    · subst hr
      have hbs : bs = [] := groups_nil_inv hrest
      subst hbs
      simp at hall
      subst hall
      have hlt : out.size < n := by omega
      have hlen' : toks.length + 1 ≤ 8 := by simpa using hlen
      have hgrp := bitLoop_group ext n f.toNat (tokBytes ext (.ref len disp) ++ []) toks 8 out
        (by omega) (by omega) hv (FlagOkAt.left hflag)
      have hk : 8 - toks.length = (7 - toks.length) + 1 := by omega
      rw [hk, bitLoop_badref ext n f.toNat (7 - toks.length) [] (expandFrom out toks) len disp
        (by simp; omega)
        (by
          have := hflag toks.length (by simp)
          simpa [Tok.isRef] using this)
        hl hd1 hd2 (by simp; omega)] at hgrp
      rw [outerLoop_cons ext n f _ out hlt, show bitLoop ext n f.toNat 8 _ out = .err .Invalid by
        simpa [List.flatMap_append] using hgrp]
    · obtain ⟨rest', hrest', htoks⟩ := append_snoc_split g rest toks _ hall hr
      subst htoks
      rw [validFrom_append] at hv
      simp at hn hbad
      rw [outerLoop_group ext n f g bs out hne hlen hflag hv.1 (by omega) (Or.inl (hfull hr))]
      exact ih rest' _ hrest' (by simpa using hv.2) (by simp; omega) (by simp; omega)

/-- No strict prefix of the bytes of a reference decodes: `decodeRef` would read the same fields
from the whole and leave the cut-off bytes over. -/
theorem decodeRef_take (ext : Bool) (len disp : Nat) (hl : lenOk ext len) (hd1 : 1 ≤ disp)
    (hd2 : disp ≤ 4096) (j : Nat) (hj : j < (tokBytes ext (.ref len disp)).length) :
    decodeRef ext ((tokBytes ext (.ref len disp)).take j) = none := by
  cases h : decodeRef ext ((tokBytes ext (.ref len disp)).take j) with
  | none => rfl
  | some p =>
    obtain ⟨c, d, r⟩ := p
    obtain ⟨hs, hc, hd⟩ := decodeRef_sound ext _ r c d h
    have hwhole := decodeRef_tokBytes ext c (d + 1) (r ++ (tokBytes ext (.ref len disp)).drop j) hc
      (by omega) (by omega)
    have hall := decodeRef_tokBytes ext len disp [] hl hd1 hd2
    rw [List.append_nil] at hall
    rw [← List.append_assoc, ← hs, List.take_append_drop, hall] at hwhole
    simp only [Option.some.injEq, Prod.mk.injEq] at hwhole
    have hnil := (List.append_eq_nil_iff.1 hwhole.2.2.symm).2
    rw [List.drop_eq_nil_iff] at hnil
    omega

theorem bitLoop_tok_trunc (ext : Bool) (length flags k : Nat) (out : BA) (t : Tok) (j : Nat)
    (hlive : out.size < length) (hflag : flags.testBit k = t.isRef)
    (hv : ValidFrom ext out.size [t]) (hj : j < (tokBytes ext t).length) :
    bitLoop ext length flags (k + 1) ((tokBytes ext t).take j) out = .err .Invalid := by
  rw [bitLoop_succ ext length flags k _ out hlive, hflag]
  cases t with
  | lit b =>
    obtain rfl : j = 0 := by simpa [tokBytes] using hj
    rfl
  | ref len disp =>
    obtain ⟨hl, hd1, hd2, _, _⟩ := hv
    simp only [Tok.isRef, cond_true, decodeRef_take ext len disp hl hd1 hd2 j hj]

theorem bitLoop_group_trunc (ext : Bool) (length flags : Nat) (g : List Tok) (k : Nat) (out : BA)
    (hk : g.length ≤ k) (hn : out.size + tsize g ≤ length) (hv : ValidFrom ext out.size g)
    (hfl : FlagOkAt k flags g) (j : Nat) (hj : j < (g.flatMap (tokBytes ext)).length) :
    bitLoop ext length flags k ((g.flatMap (tokBytes ext)).take j) out = .err .Invalid := by
  induction g generalizing k out j with
  | nil => simp at hj
  | cons t ts ih =>
    obtain ⟨k', rfl, hlive, h0, hv0, hk', hn', hv', hfl'⟩ := group_cons hk hn hv hfl
    rw [List.flatMap_cons, List.length_append] at hj
    rw [List.flatMap_cons, List.take_append]
    by_cases hjt : j < (tokBytes ext t).length
    · rw [Nat.sub_eq_zero_of_le (Nat.le_of_lt hjt), List.take_zero, List.append_nil]
      exact bitLoop_tok_trunc ext length flags k' out t j hlive h0 hv0 hjt
    · rw [List.take_of_length_le (by omega), bitLoop_tok ext length flags k' _ out t hlive h0 hv0]
      exact ih k' _ hk' hn' hv' hfl' _ (by omega)

theorem outerLoop_trunc (ext : Bool) (n : Nat) (toks : List Tok) (body : Bytes)
    (hg : Groups ext toks body) :
    ∀ (out : BA), ValidFrom ext out.size toks → out.size + tsize toks = n →
      ∀ j, j < body.length → outerLoop ext n (body.take j) out = .err .Invalid := by
  induction hg with
  | nil => intro out _ _ j hj; simp at hj
  | group f g rest bs hne hlen hfull hflag hrest ih =>
    intro out hv hn j hj
    rw [validFrom_append] at hv
    simp at hn
    have hlt := (bitLoop_flag_group ext n f g [] out hne hlen hflag hv.1 (by omega)).1
    -- the cut falls on the flag byte, inside the token bytes of this group, or behind them
    cases j with
    | zero => simp; exact outerLoop_nil ext n out hlt
    | succ j =>
      simp only [List.take_succ_cons]
      simp only [List.length_cons, List.length_append] at hj
      rw [List.take_append]
      by_cases hjg : j < (g.flatMap (tokBytes ext)).length
      · have : j - (g.flatMap (tokBytes ext)).length = 0 := by omega
        rw [this]
        simp only [List.take_zero, List.append_nil]
        rw [outerLoop_cons ext n f _ out hlt, bitLoop_group_trunc ext n f.toNat g 8 out hlen (by omega) hv.1 hflag j hjg]
      · have htake : (g.flatMap (tokBytes ext)).take j = g.flatMap (tokBytes ext) :=
          List.take_of_length_le (by omega)
        rw [htake]
        have hr : rest ≠ [] := by
          intro hr; subst hr
          have := groups_nil_inv hrest; subst this
          simp only [List.length_nil] at hj; omega
        rw [outerLoop_group ext n f g _ out hne hlen hflag hv.1 (by omega) (Or.inl (hfull hr))]
        exact ih _ (by simpa using hv.2) (by simp; omega) _ (by omega)

theorem decompressLz_header_trunc (ext : Bool) (n k : Nat) (hk : k < (header ext n).length) :
    decompressLz ((header ext n).take k) = .err .Invalid := by
  by_cases hk4 : k < 4
  · exact decompressLz_short _ (by simp; omega)
  · -- only the extended header is longer than four bytes
    cases ext with
    | false => simp [header, leBytes] at hk; omega
    | true =>
      by_cases h0 : n = 0 ∨ 2 ^ 24 ≤ n
      · have hh : header true n = 0x11 :: 0 :: 0 :: 0 :: leBytes 4 n := by simp [header, h0]
        rw [hh] at hk ⊢
        obtain ⟨k', rfl⟩ : ∃ k', k = k' + 4 := ⟨k - 4, by omega⟩
        have h17 : readU32 (0x11 :: 0 :: 0 :: 0 :: (leBytes 4 n).take k') = some (17, (leBytes 4 n).take k') :=
          rfl
        have hs := readU32_short ((leBytes 4 n).take k') (by simp [leBytes_length] at hk ⊢; omega)
        simp [decompressLz, h17, hs]
      · simp [header, h0, leBytes] at hk; omega

theorem decompressLz_trunc (ext : Bool) (n : Nat) (toks : List Tok) (s : Bytes)
    (he : Encodes ext n toks s) (hv : Valid ext toks) (hn : (expand toks).size = n)
    (hb : n < (if ext then 2 ^ 32 else 2 ^ 24)) (k : Nat) (hk : k < s.length) :
    decompressLz (s.take k) = .err .Invalid := by
  obtain ⟨body, rfl, hg⟩ := he
  rw [List.length_append] at hk
  rw [List.take_append]
  by_cases hkh : k < (header ext n).length
  · rw [Nat.sub_eq_zero_of_le (Nat.le_of_lt hkh), List.take_zero, List.append_nil]
    exact decompressLz_header_trunc ext n k hkh
  · rw [List.take_of_length_le (by omega), decompressLz_header ext n _ hb]
    exact outerLoop_trunc ext n toks body hg #[] hv (by simpa using hn) _ (by omega)

theorem decompressLz_badref (ext : Bool) (n : Nat) (toks : List Tok) (len disp : Nat) (s : Bytes)
    (he : Encodes ext n (toks ++ [.ref len disp]) s) (hv : Valid ext toks)
    (hl : lenOk ext len) (hd1 : 1 ≤ disp) (hd2 : disp ≤ 4096)
    (hn : (expand toks).size < n) (hbad : (expand toks).size < disp)
    (hb : n < (if ext then 2 ^ 32 else 2 ^ 24)) :
    decompressLz s = .err .Invalid := by
  obtain ⟨body, rfl, hg⟩ := he
  rw [decompressLz_header ext n body hb]
  exact outerLoop_badref ext n len disp _ body hg hl hd1 hd2 toks #[] rfl hv (by simpa using hn)
    (by simpa using hbad)

end Mila.Lz
