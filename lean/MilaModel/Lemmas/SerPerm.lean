/-
C02, "whatever the hash state": `serialize` is invariant under every permutation of the five
hash maps of an archive (each `HashMap` is modelled by its iteration order).
-/
import MilaModel.Lemmas.SerDefs
import MilaModel.Lemmas.SerSort

namespace Mila.Ser
open Mila.BinArchive

theorem cstrLe_preorder (c : Codec) : IsPreorder (cstrLe c) where
  trans := by intro x y z; simp only [cstrLe, bytesLe_eq]; exact strLe_trans _ _ _
  total := by intro x y; simp only [cstrLe, bytesLe_eq]; exact strLe_total _ _

theorem cstrLe_anti (c : Codec) {l : List (Str × List Nat)}
    (inj : ∀ x ∈ l, ∀ y ∈ l, cstrKey c x = cstrKey c y → x = y) :
    ∀ a b, a ∈ l → b ∈ l → cstrLe c a b = true → cstrLe c b a = true → a = b := by
  intro a b ha hb h1 h2
  simp only [cstrLe, bytesLe_eq] at h1 h2
  exact inj a ha b hb (strLe_antisymm _ _ h1 h2)

/-- The sources pushed by the c-string loop are the cell addresses of the buckets, in order. -/
theorem cstring_fold_sources (c : Codec) (n : Nat) :
    ∀ (l : List (Str × List Nat)) (st st' : TextPool × List (Nat × Nat)),
      l.foldlM (cstringStep c n) st = .ok st' →
      st'.2.map (·.1) = st.2.map (·.1) ++ l.flatMap (·.2) := by
  intro l
  induction l with
  | nil => intro st st' h; simp [List.foldlM] at h; cases h; simp
  | cons p ps ih =>
    intro st st' h
    rw [List.foldlM_cons] at h
    unfold cstringStep at h
    cases ha : addText c st.1 p.1 with
    | ok r =>
      rw [ha] at h
      rw [ih _ st' h]
      simp [List.map_append, Function.comp_def]
    | err e => rw [ha] at h; cases h
    | panic => rw [ha] at h; cases h

/-- `serializeTail` only looks at its three maps through a sort with a unique key (and a length). -/
theorem serializeTail_perm (c : Codec) (e : Endian) (d r : Bytes)
    {P P' : List (Nat × Nat)} {L L' : UMap Nat (List Str)} {T T' : UMap Nat Str}
    (hP : P.Perm P') (ndP : (P.map (·.1)).Nodup)
    (hL : L.Perm L') (ndL : (L.map (·.1)).Nodup)
    (hT : T.Perm T') (ndT : (T.map (·.1)).Nodup) :
    serializeTail c e d r P L T = serializeTail c e d r P' L' T' := by
  have h1 : P.mergeSort bySource = P'.mergeSort bySource :=
    mergeSort_eq_of_perm bySource_preorder (bySource_anti ndP) hP
  have h2 : L.mergeSort (labelLe e) = L'.mergeSort (labelLe e) :=
    mergeSort_eq_of_perm (labelLe_preorder e) (labelLe_anti e ndL) hL
  have h3 : T.mergeSort bySource = T'.mergeSort bySource :=
    mergeSort_eq_of_perm bySource_preorder (bySource_anti ndT) hT
  have h4 : T.length = T'.length := hT.length_eq
  unfold serializeTail
  rw [h1, h2, h3, h4]

/-- **C02 `serialize_perm`.**  Serialization does not depend on the iteration order of any of the
five hash maps. -/
theorem serialize_perm (c : Codec) {a a' : BinArchive} (ok : KeysOK c a) (p : PermEq a a') :
    serialize c a = serialize c a' := by
  have hc : a.cstrings.mergeSort (cstrLe c) = a'.cstrings.mergeSort (cstrLe c) :=
    mergeSort_eq_of_perm (cstrLe_preorder c) (cstrLe_anti c ok.cstrKeys) p.cstrings
  unfold serialize
  rw [← p.data, ← p.endian, ← hc]
  cases hf : (a.cstrings.mergeSort (cstrLe c)).foldlM (cstringStep c a.data.length)
      ((⟨[], []⟩ : TextPool), ([] : List (Nat × Nat))) with
  | err e => rfl
  | panic => rfl
  | ok st =>
    obtain ⟨pool, cptrs⟩ := st
    show serializeTail c a.endian a.data (padTo4 pool.raw) (a.pointers ++ cptrs) a.labels a.text
      = serializeTail c a.endian a.data (padTo4 pool.raw) (a'.pointers ++ cptrs) a'.labels a'.text
    have hsrc := cstring_fold_sources c a.data.length _ _ _ hf
    simp only [List.map_nil, List.nil_append] at hsrc
    apply serializeTail_perm c a.endian a.data _ (p.pointers.append_right cptrs) _ p.labels ok.labels
      p.text ok.text
    rw [List.map_append, hsrc]
    have hp : ((a.cstrings.mergeSort (cstrLe c)).flatMap (·.2)).Perm (a.cstrings.flatMap (·.2)) :=
      (List.mergeSort_perm a.cstrings (cstrLe c)).flatMap_right _
    exact ((hp.append_left _).nodup_iff).mpr ok.sources

end Mila.Ser
