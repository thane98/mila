/-
C05, non-vacuity support only.  The three `while` loops of the layered readers are well-founded
recursions, which the kernel does not evaluate; to exhibit concrete accepted files by evaluation we
give each loop a structurally recursive twin with explicit fuel and prove that whenever the twin
finishes (`some x`) the real loop returns the same `x`.  No theorem of C05 is *about* the fuelled
twins: they are used to `decide` the examples at the end of `Props/C05.lean`.  In the same spirit
`writeSetG` restates one step of `Aset.serialize` so that the kernel evaluates it quickly.
-/
import MilaModel.Model.TextArchive
import MilaModel.Model.Aset
import MilaModel.Model.AssetBinary

namespace Mila.ParsersFuel
open Mila BinArchive

open TextArchive in
def fromLoopFuel (c : Codec) (f : TextFormat) (a : BinArchive) :
    Nat → Nat → List (Str × Str) → Option (Res (List (Str × Str)))
  | 0, _, _ => none
  | k + 1, pos, entries =>
    if pos < a.size then
      match BinArchive.readLabels a pos with
      | .ok labels =>
        match readMessage c f a ⟨pos⟩ with
        | .ok (message, r') =>
          fromLoopFuel c f a k r'.pos
            (match (labels.getD []).head? with
             | some key => imSet entries key message
             | none => entries)
        | .err e => some (.err e)
        | .panic => some .panic
      | .err e => some (.err e)
      | .panic => some .panic
    else some (.ok entries)

open TextArchive in
theorem fromLoopFuel_sound (c : Codec) (f : TextFormat) (a : BinArchive)
    (pos : Nat) (entries : List (Str × Str)) :
    ∀ (k : Nat) (x : Res (List (Str × Str))),
      fromLoopFuel c f a k pos entries = some x → fromLoop c f a pos entries = x := by
  fun_induction fromLoop c f a pos entries <;> intro k x h <;> cases k <;> simp_all [fromLoopFuel]
  · apply_assumption; assumption
  · rw [if_neg (Nat.not_lt.2 ‹_›)] at h; simpa using h

open TextArchive in
/-- `TextArchive::from_bytes` with the message loop fuelled. -/
def textFuel (c : Codec) (f : TextFormat) (e : Endian) (k : Nat) (raw : Bytes) : Option (Res TextArchive) :=
  match BinArchive.parse c e raw with
  | .ok a =>
    match f with
    | .unicode =>
      match Reader.readSjisAligned c a ⟨0⟩ with
      | .ok (title, r) =>
        match fromLoopFuel c f a k r.pos [] with
        | some (.ok entries) => some (.ok { new f e with title := title, entries := entries })
        | some (.err er) => some (.err er)
        | some .panic => some .panic
        | none => none
      | .err er => some (.err er)
      | .panic => some .panic
    | .shiftJIS =>
      match fromLoopFuel c f a k 0 [] with
      | some (.ok entries) => some (.ok { new f e with entries := entries })
      | some (.err er) => some (.err er)
      | some .panic => some .panic
      | none => none
  | .err er => some (.err er)
  | .panic => some .panic

open TextArchive in
theorem textFuel_sound (c : Codec) (f : TextFormat) (e : Endian) (k : Nat) (raw : Bytes)
    (x : Res TextArchive) (h : textFuel c f e k raw = some x) : TextArchive.fromBytes c raw f e = x := by
  revert h
  fun_cases textFuel c f e k raw <;> simp [*, TextArchive.fromBytes, TextArchive.fromArchive]
  all_goals rintro rfl; simp [fromLoopFuel_sound _ _ _ _ _ _ _ ‹_›]

open Aset in
def readSetsFuel (a : BinArchive) : Nat → Reader → List (List (Option Str)) →
    Option (Res (List (List (Option Str))))
  | 0, _, _ => none
  | k + 1, r, acc =>
    if r.pos < a.size then
      match readSet a r with
      | .ok (set, r') => readSetsFuel a k r' (acc ++ [set])
      | .err e => some (.err e)
      | .panic => some .panic
    else some (.ok acc)

open Aset in
theorem readSetsFuel_sound (a : BinArchive) (r : Reader) (acc : List (List (Option Str))) :
    ∀ (k : Nat) (x : Res (List (List (Option Str)))),
      readSetsFuel a k r acc = some x → readSets a r acc = x := by
  fun_induction readSets a r acc <;> intro k x h <;> cases k <;> simp_all [readSetsFuel]
  · apply_assumption; assumption
  · rw [if_neg (Nat.not_lt.2 ‹_›)] at h; simpa using h

open Aset in
/-- `from_bytes` then `ASetFile::from_archive`, with the set loop fuelled. -/
def asetFuel (c : Codec) (k : Nat) (raw : Bytes) : Option (Res ASetFile) :=
  match BinArchive.parse c .little raw with
  | .ok a =>
    match a.findLabelAddress tableLabel with
    | none => some (.err .Other)
    | some tableAddress =>
      match Reader.readString a ((⟨0⟩ : Reader).skip 4) with
      | .ok (metaStr, r) =>
        match readTable a 257 (r.seek tableAddress) with
        | .ok (table, r) =>
          match readSetsFuel a k r [] with
          | some (.ok sets) => some (.ok ⟨metaStr, table, sets⟩)
          | some (.err e) => some (.err e)
          | some .panic => some .panic
          | none => none
        | .err e => some (.err e)
        | .panic => some .panic
      | .err e => some (.err e)
      | .panic => some .panic
  | .err e => some (.err e)
  | .panic => some .panic

open Aset in
theorem asetFuel_sound (c : Codec) (k : Nat) (raw : Bytes) (x : Res ASetFile)
    (h : asetFuel c k raw = some x) : (BinArchive.parse c .little raw).bind Aset.fromArchive = x := by
  revert h
  fun_cases asetFuel c k raw <;> simp [*, Res.bind, Aset.fromArchive]
  all_goals rintro rfl; simp [readSetsFuel_sound _ _ _ _ _ ‹_›]

section groups
open Aset

theorem present_drop (s : List (Option Str)) (n k : Nat) : present (s.drop n) k = present s (n + k) := by
  unfold present; rw [List.getElem?_drop]

theorem setFlags_drop (s : List (Option Str)) (g : Nat) : setFlags (s.drop (g * 32)) 0 = setFlags s g := by
  unfold setFlags
  simp only [present_drop, Nat.zero_mul, Nat.zero_add, Nat.add_assoc]

theorem stringsIn_drop (s : List (Option Str)) (g : Nat) : stringsIn (s.drop (g * 32)) 0 = stringsIn s g := by
  unfold stringsIn
  simp only [present_drop, Nat.zero_mul, Nat.zero_add, Nat.add_assoc]

/-- `Aset.writeSet` with the flag word and string count of group `g` taken from `s.drop (g * 32)`.
`Aset.present s k` walks `k` cells of `s`, and the flags of a set ask for every slot `1 … 256`: some
33 000 list steps per set when the kernel evaluates `Aset.serialize`; group `g` only concerns the
32 cells after `g * 32`, so this form takes 8 drops and 256 walks of at most 33 cells. -/
def writeSetG (w : Writer) (s : List (Option Str)) : Res Writer :=
  let fl := fun g => setFlags (s.drop (g * 32)) 0
  let w := w.allocateAtEnd (((List.range 8).countP (fun g => fl g ≠ 0)
    + ((List.range 8).map fun g => stringsIn (s.drop (g * 32)) 0).sum + 1) * 4)
  let body := fun (w : Writer) =>
    match w.writeU32 ((List.range 8).foldl (fun m g => if fl g ≠ 0 then m ||| (1 <<< g) else m) 0) with
    | .ok w2 => writeGroups s (((List.range 8).map fl).take 8) 0 w2
    | .err e => .err e
    | .panic => .panic
  match s[0]? with
  | none => .panic
  | some none => body w
  | some (some label) =>
    match w.writeLabel label with
    | .ok w1 => body w1
    | .err e => .err e
    | .panic => .panic

theorem writeSetG_eq (w : Writer) (s : List (Option Str)) : writeSetG w s = writeSet w s := by
  simp only [writeSetG, writeSet, writeSetBody, flagsToWrite, stringsToWrite, mainFlags, compiledFlags,
    setFlags_drop, stringsIn_drop]
  rfl

theorem writeSets_eq (sets : List (List (Option Str))) (w : Writer) :
    writeSets sets w = sets.foldlM writeSetG w := by
  induction sets generalizing w with
  | nil => rfl
  | cons s rest ih =>
    rw [writeSets, List.foldlM_cons, writeSetG_eq]
    cases writeSet w s <;> first | exact ih _ | rfl

end groups

open Asset in
def readSpecsFuel (a : BinArchive) : Nat → Reader → List AssetSpec → Option (Res (List AssetSpec))
  | 0, _, _ => none
  | k + 1, r, acc =>
    match fromStream a r with
    | .ok (spec, r') => readSpecsFuel a k r' (acc ++ [spec])
    | .err _ => some (.ok acc)
    | .panic => some .panic

open Asset in
theorem readSpecsFuel_sound (a : BinArchive) (r : Reader) (acc : List AssetSpec) :
    ∀ (k : Nat) (x : Res (List AssetSpec)), readSpecsFuel a k r acc = some x → readSpecs a r acc = x := by
  fun_induction readSpecs a r acc <;> intro k x h <;> cases k <;> simp_all [readSpecsFuel]
  apply_assumption; assumption

open Asset in
/-- `from_bytes` then `AssetBinary::from_archive`, with the record loop fuelled. -/
def assetFuel (c : Codec) (k : Nat) (raw : Bytes) : Option (Res AssetBinary) :=
  match BinArchive.parse c .little raw with
  | .ok a =>
    match Reader.readU32 a ⟨0⟩ with
    | .ok (flags, r) =>
      match readSpecsFuel a k r [] with
      | some (.ok specs) => some (.ok ⟨flags, specs⟩)
      | some (.err e) => some (.err e)
      | some .panic => some .panic
      | none => none
    | .err e => some (.err e)
    | .panic => some .panic
  | .err e => some (.err e)
  | .panic => some .panic

open Asset in
theorem assetFuel_sound (c : Codec) (k : Nat) (raw : Bytes) (x : Res AssetBinary)
    (h : assetFuel c k raw = some x) : (BinArchive.parse c .little raw).bind Asset.fromArchive = x := by
  revert h
  fun_cases assetFuel c k raw <;> simp [*, Res.bind, Asset.fromArchive]
  all_goals rintro rfl; simp [readSpecsFuel_sound _ _ _ _ _ ‹_›]

def okAnd {α : Type} (p : α → Bool) : Option (Res α) → Bool
  | some (.ok v) => p v
  | _ => false

/-- From an evaluated fuelled run on a literal image `b` to a statement about the real entry
point: it accepts `b` with some value `v`, and `p v` holds. -/
theorem accepted_of_fuel_lit {α : Type} {b : Bytes} {entry : Bytes → Res α}
    {fuel : Bytes → Option (Res α)} (hs : ∀ b x, fuel b = some x → entry b = x) (p : α → Bool)
    (h : okAnd p (fuel b) = true) : ∃ v, entry b = .ok v ∧ p v = true := by
  unfold okAnd at h
  split at h
  · exact ⟨_, hs _ _ ‹_›, h⟩
  · cases h

/-- The same for an image `img` that is itself computed: it exists, and is accepted. -/
theorem accepted_of_fuel {α : Type} {img : Res Bytes} {entry : Bytes → Res α}
    {fuel : Bytes → Option (Res α)} (hs : ∀ b x, fuel b = some x → entry b = x) (p : α → Bool)
    (h : (match img with
          | .ok b => okAnd p (fuel b)
          | _ => false) = true) :
    ∃ b v, img = .ok b ∧ entry b = .ok v ∧ p v = true := by
  cases img with
  | ok b => exact (accepted_of_fuel_lit hs p h).elim fun v hv => ⟨b, v, rfl, hv⟩
  | err e => cases h
  | panic => cases h

end Mila.ParsersFuel
