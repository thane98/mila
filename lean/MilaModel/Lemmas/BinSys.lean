/-
Facts about the op machine `Sys.step` (used by C03 and C04): a stream call is the positional call
at the cursor; the four liftings into the machine keep "no panic" (`BinCell`) and change nothing on
failure, so no call of the machine panics or fails with a side effect (`Sys.step_safe`); what a call
of the machine does to the archive is at most one archive-level call (`Sys.arch_ind`); and induction
over a history (`Sys.final_ind`).
-/
import MilaModel.Model.BinOps
import MilaModel.Lemmas.BinCell
import MilaModel.Lemmas.Streams

namespace Mila
open BinArchive

/-! ### streams: a stream call is the positional call at the cursor -/

theorem Reader.readTy_eq (a : BinArchive) (r : Reader) (t : Ty) :
    r.readTy a t = (a.readTy t r.pos).map (fun v => (v, ⟨r.pos + t.width⟩)) := by
  cases t <;>
    simp only [Reader.readTy, Reader.readI8, Reader.readI16, Reader.readI32, Reader.readU8, Reader.readU16,
      Reader.readU32, Reader.readF32Bits, Reader.step_eq_map, BinArchive.readTy, BinArchive.readI8,
      BinArchive.readI16, BinArchive.readI32, BinArchive.readF32Bits, BinArchive.readU16, BinArchive.readU32,
      Res.map_map] <;> rfl

theorem Writer.writeTy_eq (w : Writer) (t : Ty) (v : Int) :
    w.writeTy t v = (w.archive.writeTy t w.pos v).map (fun a => ⟨a, w.pos + t.width⟩) := by
  cases t <;>
    simp only [Writer.writeTy, Writer.writeI8, Writer.writeI16, Writer.writeI32, Writer.writeU8,
      Writer.writeU16, Writer.writeU32, Writer.writeF32Bits, Writer.step_eq_map] <;> rfl

theorem Writer.allocate_eq_map (w : Writer) (n : Nat) (ge : Bool) :
    w.allocate n ge = (if w.pos = w.archive.size then .ok (w.archive.allocateAtEnd n)
      else w.archive.allocate w.pos n ge).map (fun a => ⟨a, w.pos⟩) := by
  unfold Writer.allocate
  split
  · rfl
  · cases w.archive.allocate w.pos n ge <;> rfl

theorem Writer.allocate_ne_panic (w : Writer) (n : Nat) (ge : Bool) : w.allocate n ge ≠ .panic := by
  rw [Writer.allocate_eq_map]
  refine Res.map_ne_panic _ ?_
  split
  · nofun
  · exact Mila.allocate_ne_panic _ _ _ _

namespace Sys

/-- What every call of the machine is: it does not panic, and when it fails the state (archive and
both cursors) is as it was — the Rust methods return their `Err` before mutating `self`. -/
def Safe (s : Sys) (x : Sys × Res Out) : Prop := x.2 ≠ .panic ∧ ∀ e, x.2 = .err e → x.1 = s

theorem safe_ok (s s' : Sys) (o : Out) : Safe s (s', .ok o) := ⟨nofun, nofun⟩
theorem upd_safe (s : Sys) (r : Res BinArchive) (h : r ≠ .panic) : Safe s (s.upd r) := by
  cases r <;> simp_all [Safe, upd]
theorem qry_safe {α : Type} (s : Sys) (r : Res α) (f : α → Out) (h : r ≠ .panic) : Safe s (s.qry r f) :=
  ⟨Res.map_ne_panic _ h, fun _ _ => rfl⟩
theorem rd_safe {α : Type} (s : Sys) (r : Res (α × Reader)) (f : α → Out) (h : r ≠ .panic) :
    Safe s (s.rd r f) := by
  cases r <;> simp_all [Safe, rd]
theorem wr_safe (s : Sys) (r : Res Writer) (h : r ≠ .panic) : Safe s (s.wr r) := by
  cases r <;> simp_all [Safe, wr]

/-- The byte calls of the streams in the shape of the other stream calls: an empty read or write
succeeds on the spot, otherwise it is the positional call at the cursor. -/
theorem step_rBytes (s : Sys) (n : Nat) : s.step (.rBytes n) =
    if n = 0 then (s, .ok (.bytes []))
    else s.rd ((s.arch.readBytes s.rpos n).map (fun b => (b, ⟨s.rpos + n⟩))) .bytes := by
  by_cases hn : n = 0
  · subst hn; rfl
  · simp only [if_neg hn, step, Reader.readBytesFull, Reader.readBytes, reader, Reader.readBytesFailPos]
    cases s.arch.readBytes s.rpos n <;> rfl

theorem step_wBytes (s : Sys) (v : Bytes) : s.step (.wBytes v) =
    if v.isEmpty then (s, .ok .unit)
    else s.wr ((s.arch.writeBytes s.wpos v).map (fun a => ⟨a, s.wpos + v.length⟩)) := by
  simp only [step, Writer.writeBytes, writer]
  split
  · rfl
  · cases s.arch.writeBytes s.wpos v <;> rfl

/-- Every call of the machine — any typed, byte, annotation, relocation or stream call, at any
address / length / value — is total and fails without side effects.  (`read_shift_jis_string` on
a reader is the one exception in the Rust to the second half: it is not a cell access and leaves
the cursor at the end of the data.) -/
theorem step_safe (s : Sys) (op : Op) (hop : op ≠ .rSjis) : Safe s (s.step op) := by
  cases op
  case rSjis => exact absurd rfl hop
  case allocEnd | truncate | find | ptrDests | getLabels | rSeek | rTell | wSeek | wTell | wSize
     | wAllocEnd => exact safe_ok ..
  case rSkip | wSkip => simp only [step]; split <;> exact safe_ok ..
  case allocate => exact upd_safe _ _ (allocate_ne_panic _ _ _ _)
  case deallocate => exact upd_safe _ _ (deallocate_ne_panic _ _ _ _)
  case read => exact qry_safe _ _ _ (readTy_ne_panic _ _ _)
  case write => exact upd_safe _ _ (writeTy_ne_panic _ _ _ _)
  case readBytes => exact qry_safe _ _ _ (readBytes_ne_panic _ _ _)
  case writeBytes => exact upd_safe _ _ (writeBytes_ne_panic _ _ _)
  case readStr => exact qry_safe _ _ _ (readString_ne_panic _ _)
  case readPtr => exact qry_safe _ _ _ (readPointer_ne_panic _ _)
  case readLabels => exact qry_safe _ _ _ (readLabels_ne_panic _ _)
  case readCStr => exact qry_safe _ _ _ (readCStringRaw_ne_panic _ _)
  case writeStr => exact upd_safe _ _ (writeString_ne_panic _ _ _)
  case writePtr => exact upd_safe _ _ (writePointer_ne_panic _ _ _)
  case writeCStr => exact upd_safe _ _ (writeCString_ne_panic _ _ _)
  case writeLabel => exact upd_safe _ _ (writeLabel_ne_panic _ _ _)
  case writeLabels => exact upd_safe _ _ (writeLabels_ne_panic _ _ _)
  case delStr => exact upd_safe _ _ (deleteString_ne_panic _ _)
  case delPtr => exact upd_safe _ _ (deletePointer_ne_panic _ _)
  case delLabels => exact upd_safe _ _ (deleteLabels_ne_panic _ _)
  case delLabel => exact upd_safe _ _ (deleteLabel_ne_panic _ _ _)
  case rRead => exact rd_safe _ _ _ (Reader.readTy_eq .. ▸ Res.map_ne_panic _ (readTy_ne_panic _ _ _))
  case rBytes =>
    rw [step_rBytes]
    split
    · exact safe_ok ..
    · exact rd_safe _ _ _ (Res.map_ne_panic _ (readBytes_ne_panic _ _ _))
  case rStr => exact rd_safe _ _ _ (Reader.step_ne_panic _ _ _ (readString_ne_panic _ _))
  case rPtr => exact rd_safe _ _ _ (Reader.step_ne_panic _ _ _ (readPointer_ne_panic _ _))
  case rCStr => exact rd_safe _ _ _ (Reader.step_ne_panic _ _ _ (readCStringRaw_ne_panic _ _))
  case rLabel i =>
    refine qry_safe s _ _ ?_
    have := readLabels_ne_panic s.arch s.reader.pos
    simp only [Reader.readLabel]
    split <;> simp_all
  case rLabels => exact qry_safe s _ _ (readLabels_ne_panic _ _)
  case wWrite => exact wr_safe _ _ (Writer.writeTy_eq .. ▸ Res.map_ne_panic _ (writeTy_ne_panic _ _ _ _))
  case wBytes =>
    rw [step_wBytes]
    split
    · exact safe_ok ..
    · exact wr_safe _ _ (Res.map_ne_panic _ (writeBytes_ne_panic _ _ _))
  case wStr => exact wr_safe _ _ (Writer.step_ne_panic _ _ _ (writeString_ne_panic _ _ _))
  case wPtr => exact wr_safe _ _ (Writer.step_ne_panic _ _ _ (writePointer_ne_panic _ _ _))
  case wCStr => exact wr_safe _ _ (Writer.step_ne_panic _ _ _ (writeCString_ne_panic _ _ _))
  case wLabel => exact wr_safe _ _ (Writer.step_ne_panic _ _ _ (writeLabel_ne_panic _ _ _))
  case wAlloc => exact wr_safe _ _ (Writer.allocate_ne_panic _ _ _)

theorem upd_arch (s : Sys) (r : Res BinArchive) : (s.upd r).1.arch = r.toOption.getD s.arch := by
  cases r <;> rfl

theorem wr_map_arch (s : Sys) (r : Res BinArchive) (k : Nat) :
    (s.wr (r.map (fun a => ⟨a, k⟩))).1.arch = r.toOption.getD s.arch := by
  cases r <;> rfl

theorem rd_arch {α : Type} (s : Sys) (r : Res (α × Reader)) (f : α → Out) : (s.rd r f).1.arch = s.arch := by
  cases r <;> rfl

/-- The archive-level call behind a call of the machine (a writer call acts at the writer
cursor, an empty `write_bytes` leaves the archive as it is); calls that cannot touch the archive
have none. -/
def archCall (s : Sys) : Op → Option (Res BinArchive)
  | .allocEnd n | .wAllocEnd n => some (.ok (s.arch.allocateAtEnd n))
  | .truncate c => some (.ok (s.arch.truncate c))
  | .allocate x n ge => some (s.arch.allocate x n ge)
  | .deallocate x n ge => some (s.arch.deallocate x n ge)
  | .wAlloc n ge =>
    some (if s.wpos = s.arch.size then .ok (s.arch.allocateAtEnd n) else s.arch.allocate s.wpos n ge)
  | .write t x v => some (s.arch.writeTy t x v)
  | .wWrite t v => some (s.arch.writeTy t s.wpos v)
  | .writeBytes x v => some (s.arch.writeBytes x v)
  | .wBytes v => some (if v.isEmpty then .ok s.arch else s.arch.writeBytes s.wpos v)
  | .writeStr x v => some (s.arch.writeString x v)
  | .wStr v => some (s.arch.writeString s.wpos v)
  | .writePtr x v => some (s.arch.writePointer x v)
  | .wPtr v => some (s.arch.writePointer s.wpos v)
  | .writeCStr x v => some (s.arch.writeCString x v)
  | .wCStr v => some (s.arch.writeCString s.wpos v)
  | .writeLabel x v => some (s.arch.writeLabel x v)
  | .wLabel v => some (s.arch.writeLabel s.wpos v)
  | .writeLabels x v => some (s.arch.writeLabels x v)
  | .delStr x => some (s.arch.deleteString x)
  | .delPtr x => some (s.arch.deletePointer x)
  | .delLabels x => some (s.arch.deleteLabels x)
  | .delLabel x i => some (s.arch.deleteLabel x i)
  | _ => none

theorem step_arch (s : Sys) (op : Op) :
    (s.step op).1.arch = ((s.archCall op).bind Res.toOption).getD s.arch := by
  cases op
  case allocate | deallocate | write | writeBytes | writeStr | writePtr | writeCStr | writeLabel
     | writeLabels | delStr | delPtr | delLabels | delLabel => exact upd_arch _ _
  case rRead | rStr | rPtr | rCStr => exact rd_arch _ _ _
  case wWrite | wStr | wPtr | wCStr | wLabel | wAlloc =>
    simp only [step, Writer.writeTy_eq, Writer.writeString, Writer.writePointer, Writer.writeCString,
      Writer.writeLabel, Writer.step_eq_map, Writer.allocate_eq_map]
    exact wr_map_arch s _ _
  case rSkip | wSkip => simp only [step]; split <;> rfl
  case wBytes v =>
    rw [step_wBytes, archCall]
    split
    · rfl
    · exact wr_map_arch s _ _
  all_goals rfl

/-- To show that a property of the archive survives every call of the machine, show that it
survives every successful archive-level call. -/
theorem arch_ind {P : BinArchive → Prop} (s : Sys) (op : Op) (h0 : P s.arch)
    (h : ∀ r a', s.archCall op = some r → r = .ok a' → P a') : P (s.step op).1.arch := by
  rw [step_arch]
  cases hc : s.archCall op with
  | none => exact h0
  | some r =>
    cases r with
    | ok a' => exact h _ a' hc rfl
    | err _ => exact h0
    | panic => exact h0

theorem final_cons (s : Sys) (op : Op) (ops : List Op) :
    s.final (op :: ops) = (s.step op).1.final ops := by
  simp only [final, run]

/-- Induction over a history, for a property of the state and the calls still to come: if every call
hands it on to the state it leads to, it holds at the end. -/
theorem final_ind {P : Sys → List Op → Prop} (h : ∀ s op ops, P s (op :: ops) → P (s.step op).1 ops)
    (ops : List Op) : ∀ s, P s ops → P (s.final ops) [] := by
  induction ops with
  | nil => exact fun _ hs => hs
  | cons op ops ih => exact fun s hs => ih _ (h s op ops hs)

end Sys
end Mila
