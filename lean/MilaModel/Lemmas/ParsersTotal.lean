/-
C05, part 1: the readers layered on `BinArchive.parse` — text archive (both formats), aset, asset
binary — never produce the `panic` outcome, for an arbitrary archive (hence for whatever an untrusted
buffer parses to) and an arbitrary codec.  The set loop of the aset reader only produces sets of
exactly 257 entries, which is what makes `ASetFile::serialize`'s `set[0]` safe on accepted values.
-/
import MilaModel.Lemmas.BinCell
import MilaModel.Model.TextArchive
import MilaModel.Model.Aset
import MilaModel.Model.AssetBinary

namespace Mila.ParsersLemmas
open Mila BinArchive

/- Every function below propagates the outcomes of its callees (`?` in the Rust) and adds none of its
own, so each proof is the same: one case per path through the function (`fun_cases`, or
`fun_induction` for a loop), and on each path the result is `ok`/`err`, a call that has its own
lemma in the `simp` set, or a callee's `panic`, which that callee's lemma contradicts. -/

attribute [local simp] readU8_ne_panic readUInt_ne_panic readString_ne_panic readLabels_ne_panic
  Reader.readBytes_ne_panic Reader.readU32_ne_panic

@[local simp] theorem reader_readU8 (a : BinArchive) (r : Reader) : Reader.readU8 a r ≠ .panic :=
  Reader.step_ne_panic _ _ _ (readU8_ne_panic a _)

@[local simp] theorem reader_readString (a : BinArchive) (r : Reader) : Reader.readString a r ≠ .panic :=
  Reader.step_ne_panic _ _ _ (readString_ne_panic a _)

@[local simp] theorem reader_readLabel (a : BinArchive) (r : Reader) (i : Nat) :
    Reader.readLabel a r i ≠ .panic := by
  fun_cases Reader.readLabel a r i <;> simp_all

@[local simp] theorem reader_readSjisAligned (c : Codec) (a : BinArchive) (r : Reader) :
    Reader.readSjisAligned c a r ≠ .panic := by
  fun_cases Reader.readSjisAligned c a r <;> simp_all

section text
open TextArchive

@[local simp] theorem decodeUtf16_total (raw : Bytes) : Utf.decodeUtf16 raw ≠ .panic := by
  unfold Utf.decodeUtf16; split <;> simp

@[local simp] theorem readUtf16Aligned_total (a : BinArchive) (r : Reader) : readUtf16Aligned a r ≠ .panic := by
  fun_cases readUtf16Aligned a r <;> simp_all

@[local simp] theorem readMessage_total (c : Codec) (f : TextFormat) (a : BinArchive) (r : Reader) :
    readMessage c f a r ≠ .panic := by
  cases f <;> simp [readMessage]

@[local simp] theorem fromLoop_total (c : Codec) (f : TextFormat) (a : BinArchive) (pos : Nat)
    (es : List (Str × Str)) : fromLoop c f a pos es ≠ .panic := by
  fun_induction fromLoop c f a pos es <;> simp_all

theorem text_fromArchive_total (c : Codec) (a : BinArchive) (f : TextFormat) (e : Endian) :
    TextArchive.fromArchive c a f e ≠ .panic := by
  fun_cases TextArchive.fromArchive c a f e <;> simp_all

end text

section aset
open Aset

@[local simp] theorem readTable_total (a : BinArchive) (n : Nat) (r : Reader) : readTable a n r ≠ .panic := by
  fun_induction readTable a n r <;> simp_all

@[local simp] theorem readSlots_total (a : BinArchive) (fl n bit : Nat) (r : Reader) :
    readSlots a fl n bit r ≠ .panic := by
  fun_induction readSlots a fl n bit r <;> simp_all

@[local simp] theorem readGroups_total (a : BinArchive) (mf n i : Nat) (r : Reader) :
    readGroups a mf n i r ≠ .panic := by
  fun_induction readGroups a mf n i r <;> simp_all

@[local simp] theorem readSet_total (a : BinArchive) (r : Reader) : readSet a r ≠ .panic := by
  fun_cases readSet a r <;> simp_all

@[local simp] theorem readSets_total (a : BinArchive) (r : Reader) (acc : List (List (Option Str))) :
    readSets a r acc ≠ .panic := by
  fun_induction readSets a r acc <;> simp_all

theorem aset_fromArchive_total (a : BinArchive) : Aset.fromArchive a ≠ .panic := by
  fun_cases Aset.fromArchive a <;> simp_all

theorem readSlots_length (a : BinArchive) (fl n bit : Nat) (r : Reader) :
    ∀ {l r'}, readSlots a fl n bit r = .ok (l, r') → l.length = n := by
  fun_induction readSlots a fl n bit r <;> intro l r' h <;> cases h <;> simp_all

theorem readGroups_length (a : BinArchive) (mf n i : Nat) (r : Reader) :
    ∀ {l r'}, readGroups a mf n i r = .ok (l, r') → l.length = 32 * n := by
  fun_induction readGroups a mf n i r <;> intro l r' h <;> cases h
  · rfl
  · rename_i hs _ _ hg ih
    rw [List.length_append, readSlots_length _ _ _ _ _ hs, ih hg]; omega
  · rename_i hg ih
    rw [List.length_append, List.length_replicate, ih hg]; omega

theorem readSet_length {a : BinArchive} {r : Reader} {s r'} :
    readSet a r = .ok (s, r') → s.length = 257 := by
  fun_cases readSet a r <;> intro h <;> cases h
  exact congrArg (· + 1) (readGroups_length _ _ _ _ _ ‹_›)

theorem readSets_length (a : BinArchive) (r : Reader) (acc : List (List (Option Str))) :
    (∀ s ∈ acc, s.length = 257) → ∀ {sets}, readSets a r acc = .ok sets →
      ∀ s ∈ sets, s.length = 257 := by
  fun_induction readSets a r acc <;> intro hacc sets h
  · rename_i hset ih
    exact ih (List.forall_mem_append.2 ⟨hacc, List.forall_mem_singleton.2 (readSet_length hset)⟩) h
  · cases h
  · cases h
  · cases h; exact hacc

end aset

section asset
open Asset

@[local simp] theorem readFlagStr_total (a : BinArchive) (r : Reader) (fl : List Nat) (i : Nat) :
    readFlagStr a r fl i ≠ .panic := by
  unfold readFlagStr; split <;> simp

@[local simp] theorem readColor_total (a : BinArchive) (r : Reader) : readColor a r ≠ .panic := by
  fun_cases readColor a r <;> simp_all

@[local simp] theorem readStrs_total (a : BinArchive) (fl : List Nat) (is : List Nat) (r : Reader) :
    readStrs a fl is r ≠ .panic := by
  fun_induction readStrs a fl is r <;> simp_all

@[local simp] theorem readVal_total (a : BinArchive) (fl : List Nat) (i : Nat) (r : Reader) :
    readVal a fl i r ≠ .panic := by
  fun_cases readVal a fl i r <;> simp_all

@[local simp] theorem readVals_total (a : BinArchive) (fl : List Nat) (is : List Nat) (r : Reader) :
    readVals a fl is r ≠ .panic := by
  fun_induction readVals a fl is r <;> simp_all

@[local simp] theorem fromStream_total (a : BinArchive) (r : Reader) : fromStream a r ≠ .panic := by
  fun_cases fromStream a r <;> simp_all

@[local simp] theorem readSpecs_total (a : BinArchive) (r : Reader) (acc : List AssetSpec) :
    readSpecs a r acc ≠ .panic := by
  fun_induction readSpecs a r acc <;> simp_all

theorem asset_fromArchive_total (a : BinArchive) : Asset.fromArchive a ≠ .panic := by
  fun_cases Asset.fromArchive a <;> simp_all

end asset

end Mila.ParsersLemmas
