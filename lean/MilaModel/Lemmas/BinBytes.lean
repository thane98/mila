/-
Byte-level lemmas for C04: `patch` against the specification's `Replaced`, the byte layout of
`Endian.enc`, two's-complement round trip.
-/
import MilaModel.Spec.Cell
import MilaModel.Lemmas.Bytes
import MilaModel.Lemmas.Slice

namespace Mila
open BinArchive Spec.Cell

theorem leBytes_eq_map (k n : Nat) :
    leBytes k n = (List.range k).map (fun i => UInt8.ofNat (n / 256 ^ i % 256)) := by
  induction k generalizing n with
  | zero => rfl
  | succ k ih =>
    rw [leBytes, ih, List.range_succ_eq_map, List.map_cons, List.map_map]
    simp [Function.comp_def, Nat.pow_succ', Nat.div_div_eq_div_mul]

theorem enc_layout (e : Endian) (w v : Nat) : e.enc w v = layout e w v := by
  cases e
  · exact leBytes_eq_map w v
  · simp only [Endian.enc, beBytes, leBytes_eq_map, layout]
    apply List.ext_getElem
    · simp
    · intro i h1 _
      simp at h1
      simp [List.getElem_reverse, byteAt]

theorem patch_replaced (b : Bytes) (at_ : Nat) (v : Bytes) (h : at_ + v.length ≤ b.length) :
    Replaced b (patch b at_ v) at_ v := by
  refine ⟨length_patch b at_ v h, fun i hi => ?_, fun i hi => ?_⟩
  · rw [getElem?_patch _ _ _ _ h, if_pos (by omega), Nat.add_sub_cancel_left]
  · rw [getElem?_patch _ _ _ _ h, if_neg (by omega)]

theorem toSigned_ofSigned (bits : Nat) (hb : 0 < bits) (v : Int)
    (h : -(2 : Int) ^ (bits - 1) ≤ v ∧ v < (2 : Int) ^ (bits - 1)) :
    toSigned bits (ofSigned bits v) = v := by
  unfold toSigned ofSigned
  have hp : 2 ^ bits = 2 * 2 ^ (bits - 1) := by
    rw [← Nat.pow_succ']; congr 1; omega
  rw [hp]
  rw [show (2 : Int) ^ (bits - 1) = ((2 ^ (bits - 1) : Nat) : Int) by norm_cast] at h
  generalize 2 ^ (bits - 1) = p at h ⊢
  -- `v % 2p` is `v` for `0 ≤ v < p` and `v + 2p` for `-p ≤ v < 0`
  by_cases hv : 0 ≤ v
  · rw [Int.emod_eq_of_lt hv (by omega)]
    split <;> omega
  · rw [← Int.add_mul_emod_self_left v _ 1, Int.emod_eq_of_lt (by omega) (by omega)]
    split <;> omega

theorem toSigned_ofSigned_8 (v : Int) (h : -128 ≤ v ∧ v < 128) : toSigned 8 (ofSigned 8 v) = v :=
  toSigned_ofSigned 8 (by decide) v h

theorem toSigned_ofSigned_16 (v : Int) (h : -32768 ≤ v ∧ v < 32768) : toSigned 16 (ofSigned 16 v) = v :=
  toSigned_ofSigned 16 (by decide) v h

theorem toSigned_ofSigned_32 (v : Int) (h : -2147483648 ≤ v ∧ v < 2147483648) :
    toSigned 32 (ofSigned 32 v) = v :=
  toSigned_ofSigned 32 (by decide) v h

theorem ofSigned_lt (bits : Nat) (v : Int) : ofSigned bits v < 2 ^ bits := by
  unfold ofSigned
  have hp : (0 : Int) < ((2 ^ bits : Nat) : Int) := by
    have : 0 < 2 ^ bits := Nat.two_pow_pos bits
    omega
  have h1 := Int.emod_lt_of_pos v hp
  have h2 := Int.emod_nonneg v (Int.ne_of_gt hp)
  omega

theorem ofSigned_nat (bits : Nat) (n : Nat) (h : n < 2 ^ bits) : ofSigned bits (n : Int) = n := by
  unfold ofSigned
  have : ((n : Int) % ((2 ^ bits : Nat) : Int)) = ((n % 2 ^ bits : Nat) : Int) := by norm_cast
  rw [this, Int.toNat_natCast, Nat.mod_eq_of_lt h]

end Mila
