/-
Lemmas for C06: the data image written by `TextArchive::serialize` is a concatenation of 4-byte
padded blocks, the label table carries one key per block start, and `from_archive` walks exactly
these blocks.  The quantifier of C06 (`C06.InDomain`) is defined at the end, followed by the archive
`serialize` builds on it in closed form (`built`, `buildArchive_eq`) and the facts that put that
archive in C01's quantifier.
-/
import MilaModel.Model.TextArchive
import MilaModel.Lemmas.TextUtf
import MilaModel.Lemmas.TextIndexMap
import MilaModel.Lemmas.Slice
import MilaModel.Lemmas.Validate
import MilaModel.Lemmas.SerDefs

namespace Mila.Lemmas.TextLayout
open Mila.TextArchive Mila.BinArchive
open Mila.Lemmas.TextIndexMap (keysOf)

/-- What writer and reader need of a message: the codec takes it to NUL-free bytes and back (legacy
format), or it is NUL-free Unicode text, given by its scalar values (UTF-16 format).  C06's
`MsgDomain D`, below, is this with "`D m`" in the first clause: `good_of_domain`, for `c` faithful on `D`. -/
def GoodMsg (c : Codec) (f : TextFormat) (m : Str) : Prop :=
  match f with
  | .shiftJIS => ∃ b, c.enc m = some b ∧ (0 : UInt8) ∉ b ∧ c.dec b = m
  | .unicode => ∃ cs, (∀ x ∈ cs, Utf.IsScalar x ∧ x ≠ 0) ∧ m = Utf.utf8Enc cs

/-- The bytes of a message in front of its terminator (`[]` where the writer fails). -/
def bodyOf (c : Codec) (f : TextFormat) (m : Str) : Bytes :=
  match f with
  | .shiftJIS => (c.enc m).getD []
  | .unicode => match Utf.toUtf16 m with
    | .ok u => u
    | _ => []

/-- The terminator is one NUL byte, or one NUL code unit. -/
def termLen : TextFormat → Nat
  | .shiftJIS => 1
  | .unicode => 2

/-- The block one message occupies: encoded body, terminator, zero padding to 4 bytes. -/
def blockOf (c : Codec) (f : TextFormat) (m : Str) : Bytes :=
  padTo4 (bodyOf c f m ++ List.replicate (termLen f) 0)

theorem add_mod4 {p : Nat} (h : p % 4 = 0) (n : Nat) : (p + n) % 4 = n % 4 := by
  rw [Nat.add_mod, h, Nat.zero_add, Nat.mod_mod]

/-- What the writer appends to an aligned image is the message's own block. -/
theorem padTo4_append (pre b : Bytes) (h : pre.length % 4 = 0) : padTo4 (pre ++ b) = pre ++ padTo4 b := by
  simp only [padTo4, List.length_append, add_mod4 h, List.append_assoc]

theorem aligned_append {a b : Bytes} (ha : a.length % 4 = 0) (hb : b.length % 4 = 0) :
    (a ++ b).length % 4 = 0 := by
  rw [List.length_append, add_mod4 ha, hb]

theorem alignUp_add_length {p : Nat} (b : Bytes) (h : p % 4 = 0) :
    Reader.alignUp (p + b.length) = p + (padTo4 b).length := by
  rw [padTo4_length, Reader.alignUp, add_mod4 h]; omega

theorem blockOf_length_mod (c : Codec) (f : TextFormat) (m : Str) : (blockOf c f m).length % 4 = 0 :=
  padTo4_length_mod _

/-- A block holds at least its terminator, hence a whole word. -/
theorem blockOf_length_ge (c : Codec) (f : TextFormat) (m : Str) : 4 ≤ (blockOf c f m).length := by
  have h : 0 < termLen f := by cases f <;> decide
  rw [blockOf, padTo4_length, List.length_append, List.length_replicate]
  omega

theorem writeMessage_good (c : Codec) (f : TextFormat) (bytes : Bytes) (m : Str)
    (hg : GoodMsg c f m) (hb : bytes.length % 4 = 0) :
    writeMessage c f bytes m = .ok (bytes ++ blockOf c f m) := by
  rw [blockOf, ← padTo4_append _ _ hb, ← List.append_assoc]
  cases f with
  | shiftJIS =>
    obtain ⟨b, he, _, _⟩ := hg
    simp only [writeMessage, writeSjisString, he, bodyOf, Option.getD_some]
    rfl
  | unicode =>
    obtain ⟨cs, hcs, rfl⟩ := hg
    simp only [writeMessage, writeUtf16String, bodyOf, (TextUtf.utf16_roundtrip cs hcs []).1]
    rfl

theorem readMessage_body (c : Codec) (f : TextFormat) (a : BinArchive) (r : Reader) (m : Str)
    (rest : Bytes) (hg : GoodMsg c f m)
    (h : a.data.drop r.pos = bodyOf c f m ++ (List.replicate (termLen f) 0 ++ rest)) :
    readMessage c f a r =
      .ok (m, ⟨Reader.alignUp (r.pos + ((bodyOf c f m).length + termLen f))⟩) := by
  cases f with
  | shiftJIS =>
    obtain ⟨b, he, h0, rfl⟩ := hg
    simp only [bodyOf, he, Option.getD_some] at h ⊢
    replace h : _ = b ++ 0 :: rest := h
    rw [readMessage, Reader.readSjisAligned, h, cstrBytes_append _ _ h0]
    rfl
  | unicode =>
    obtain ⟨cs, hcs, rfl⟩ := hg
    obtain ⟨h1, h2, h3⟩ := TextUtf.utf16_roundtrip cs hcs rest
    rw [bodyOf, h1] at h ⊢
    replace h : _ = Utf.utf16Bytes cs ++ 0 :: 0 :: rest := h
    rw [readMessage, readUtf16Aligned, h, h2]
    simp only [h3]
    rfl

theorem readMessage_block (c : Codec) (f : TextFormat) (a : BinArchive) (pre post : Bytes) (m : Str)
    (hg : GoodMsg c f m) (hd : a.data = pre ++ blockOf c f m ++ post) (hp : pre.length % 4 = 0) :
    readMessage c f a ⟨pre.length⟩ = .ok (m, ⟨pre.length + (blockOf c f m).length⟩) := by
  rw [blockOf, ← alignUp_add_length _ hp, List.length_append, List.length_replicate]
  apply readMessage_body c f a ⟨pre.length⟩ m _ hg
  rw [hd, List.append_assoc, List.drop_left, blockOf, padTo4, List.append_assoc, List.append_assoc]

/-- The data region the entries occupy: their blocks, one after the other. -/
def image (c : Codec) (f : TextFormat) (es : List (Str × Str)) : Bytes :=
  es.flatMap (fun p => blockOf c f p.2)

/-- `label_info` as a function of the start offset. -/
def labelInfo (c : Codec) (f : TextFormat) : Nat → List (Str × Str) → List (Str × Nat)
  | _, [] => []
  | off, (k, m) :: rest => (k, off) :: labelInfo c f (off + (blockOf c f m).length) rest

theorem image_length_mod (c : Codec) (f : TextFormat) (es : List (Str × Str)) :
    (image c f es).length % 4 = 0 := by
  induction es with
  | nil => rfl
  | cons p ps ih => exact aligned_append (blockOf_length_mod c f p.2) ih

theorem writeEntries_good (c : Codec) (f : TextFormat) (es : List (Str × Str))
    (hg : ∀ p ∈ es, GoodMsg c f p.2) :
    ∀ (bytes : Bytes) (info : List (Str × Nat)), bytes.length % 4 = 0 →
      writeEntries c f bytes info es =
        .ok (bytes ++ image c f es, info ++ labelInfo c f bytes.length es) := by
  induction es with
  | nil => intro bytes info _; simp [writeEntries, image, labelInfo]
  | cons p ps ih =>
    intro bytes info hb
    obtain ⟨k, m⟩ := p
    rw [writeEntries, writeMessage_good c f bytes m (hg (k, m) (by simp)) hb]
    simp only
    rw [ih (fun q hq => hg q (by simp [hq])) _ _ (aligned_append hb (blockOf_length_mod c f m))]
    simp [image, labelInfo, List.append_assoc]

theorem writeMessage_ne_panic (c : Codec) (f : TextFormat) (bytes : Bytes) (s : Str) :
    writeMessage c f bytes s ≠ .panic := by
  cases f
  · rw [writeMessage, writeSjisString]; split <;> nofun
  · rw [writeMessage, writeUtf16String, Utf.toUtf16]; cases Utf.utf8Dec s <;> nofun

theorem writeEntries_ne_panic (c : Codec) (f : TextFormat) :
    ∀ es bytes info, writeEntries c f bytes info es ≠ .panic
  | [], _, _ => nofun
  | (k, v) :: es, bytes, info => by
    rw [writeEntries]
    split
    · exact writeEntries_ne_panic c f es _ _
    · nofun
    · exact absurd ‹_› (writeMessage_ne_panic c f bytes v)

theorem buildData_ne_panic (c : Codec) (t : TextArchive) : buildData c t ≠ .panic := by
  unfold buildData
  split
  · split
    · exact writeEntries_ne_panic c _ _ _ _
    · nofun
    · exact absurd ‹_› (writeMessage_ne_panic c .shiftJIS [] t.title)
  · exact writeEntries_ne_panic c _ _ _ _

theorem labelInfo_keys (c : Codec) (f : TextFormat) (es : List (Str × Str)) (off : Nat) :
    (labelInfo c f off es).map (·.1) = keysOf es := by
  induction es generalizing off with
  | nil => rfl
  | cons p ps ih => obtain ⟨k, m⟩ := p; simp [labelInfo, keysOf, ih]

theorem labelInfo_bounds (c : Codec) (f : TextFormat) (es : List (Str × Str)) (off : Nat) :
    ∀ p ∈ labelInfo c f off es, off ≤ p.2 ∧ p.2 + 4 ≤ off + (image c f es).length := by
  induction es generalizing off with
  | nil => intro p hp; cases hp
  | cons q qs ih =>
    obtain ⟨k, m⟩ := q
    intro p hp
    have hge := blockOf_length_ge c f m
    simp only [image, List.flatMap_cons, List.length_append] at ih ⊢
    rcases List.mem_cons.mp hp with rfl | hp
    · exact ⟨Nat.le_refl _, by omega⟩
    · have := ih _ p hp
      omega

theorem labelInfo_sorted (c : Codec) (f : TextFormat) (es : List (Str × Str)) (off : Nat) :
    (labelInfo c f off es).Pairwise (fun p q => p.2 < q.2) := by
  induction es generalizing off with
  | nil => exact .nil
  | cons q qs ih =>
    obtain ⟨k, m⟩ := q
    refine List.pairwise_cons.mpr ⟨fun p hp => ?_, ih _⟩
    have := (labelInfo_bounds c f qs _ p hp).1
    have := blockOf_length_ge c f m
    show off < p.2
    omega

theorem labelInfo_nodup (c : Codec) (f : TextFormat) (es : List (Str × Str)) (off : Nat) :
    ((labelInfo c f off es).map (·.2)).Nodup :=
  List.pairwise_map.mpr ((labelInfo_sorted c f es off).imp Nat.ne_of_lt)

theorem writeLabel_fresh (a : BinArchive) (off : Nat) (k : Str) (hoff : off ≤ a.size)
    (hnone : UMap.get a.labels off = none) :
    a.writeLabel off k = .ok { a with labels := a.labels ++ [(off, [k])] } := by
  have hk : off ∉ UMap.keys a.labels := fun hk =>
    (UMap.forall_keys _ (· ≠ off)).mpr ((UMap.get_eq_none_iff _ _).mp hnone) off hk rfl
  simp only [BinArchive.writeLabel, validateAddress_le hoff, hnone, UMap.insert_of_not_mem _ _ _ hk]

theorem writeLabels_fresh (info : List (Str × Nat)) :
    ∀ (a : BinArchive), (∀ p ∈ info, p.2 ≤ a.size) → (info.map (·.2)).Nodup →
      (∀ p ∈ info, UMap.get a.labels p.2 = none) →
      TextArchive.writeLabels a info =
        .ok { a with labels := a.labels ++ info.map (fun p => (p.2, [p.1])) } := by
  induction info with
  | nil => intro a _ _ _; simp [TextArchive.writeLabels]
  | cons q qs ih =>
    obtain ⟨k, off⟩ := q
    intro a hle hnd hfresh
    rw [List.map_cons, List.nodup_cons] at hnd
    rw [TextArchive.writeLabels, writeLabel_fresh a off k (hle (k, off) (by simp)) (hfresh (k, off) (by simp))]
    simp only
    rw [ih]
    · simp [List.append_assoc]
    · exact fun p hp => hle p (by simp [hp])
    · exact hnd.2
    · intro p hp
      have hne : off ≠ p.2 := fun e => hnd.1 (e ▸ List.mem_map_of_mem (f := (·.2)) hp)
      show UMap.get (a.labels ++ [(off, [k])]) p.2 = none
      rw [UMap.get_append_singleton, if_neg (Ne.symm hne), Option.or_none]
      exact hfresh p (by simp [hp])

theorem umap_get_info (info : List (Str × Nat)) (hnd : (info.map (·.2)).Nodup) :
    ∀ p ∈ info, UMap.get (info.map (fun p => (p.2, [p.1]))) p.2 = some [p.1] :=
  fun p hp => (UMap.mem_iff_get (by rwa [List.map_map]) (p.2, [p.1])).mp (List.mem_map_of_mem hp)

/-- The layout clause of C06 on a bin archive: starting at `off`, each entry sits on a 4-byte
boundary, is labelled with exactly its key, reads back as its message, and the next entry starts
where that read ends; after the last entry the data region ends. -/
def Laid (c : Codec) (f : TextFormat) (a : BinArchive) : Nat → List (Str × Str) → Prop
  | off, [] => off = a.size
  | off, (k, m) :: rest =>
    off % 4 = 0 ∧ off + 4 ≤ a.size ∧ UMap.get a.labels off = some [k] ∧
      ∃ r', readMessage c f a ⟨off⟩ = .ok (m, r') ∧ Laid c f a r'.pos rest

theorem laid_of_image (c : Codec) (f : TextFormat) (a : BinArchive) (es : List (Str × Str))
    (hg : ∀ p ∈ es, GoodMsg c f p.2) :
    ∀ (pre : Bytes), a.data = pre ++ image c f es → pre.length % 4 = 0 →
      (∀ p ∈ labelInfo c f pre.length es, UMap.get a.labels p.2 = some [p.1]) →
      Laid c f a pre.length es := by
  induction es with
  | nil =>
    intro pre hd _ _
    simp only [Laid, BinArchive.size, hd, image, List.flatMap_nil, List.append_nil]
  | cons q qs ih =>
    obtain ⟨k, m⟩ := q
    intro pre hd hp hl
    have hge := blockOf_length_ge c f m
    have hmod := blockOf_length_mod c f m
    simp only [image, List.flatMap_cons] at hd
    rw [← List.append_assoc] at hd
    refine ⟨hp, ?_, hl (k, pre.length) (by simp [labelInfo]), _,
      readMessage_block c f a pre _ m (hg (k, m) (by simp)) hd hp, ?_⟩
    · simp only [BinArchive.size, hd, List.length_append]; omega
    · rw [← List.length_append]
      refine ih (fun p hp' => hg p (by simp [hp'])) (pre ++ blockOf c f m) hd
        (aligned_append hp hmod) (fun p hp' => hl p ?_)
      rw [List.length_append] at hp'
      exact List.mem_cons_of_mem _ hp'

theorem readMessage_lt_size {c : Codec} {f : TextFormat} {a : BinArchive} {pos : Nat} {m : Str}
    {r' : Reader} (h : readMessage c f a ⟨pos⟩ = .ok (m, r')) : pos < a.size := by
  false_or_by_contra
  rename_i hge
  have hdrop : a.data.drop pos = [] := List.drop_of_length_le (by unfold BinArchive.size at hge; omega)
  cases f with
  | shiftJIS => simp [readMessage, Reader.readSjisAligned, hdrop, cstrBytes] at h
  | unicode => simp [readMessage, readUtf16Aligned, hdrop, Utf.utf16Raw] at h

/-- The loop body of `from_archive`, with the progress proof of the definition forgotten. -/
theorem fromLoop_unfold (c : Codec) (f : TextFormat) (a : BinArchive) (pos : Nat)
    (acc : List (Str × Str)) :
    fromLoop c f a pos acc =
      if pos < a.size then
        match BinArchive.readLabels a pos with
        | .ok labels =>
          match readMessage c f a ⟨pos⟩ with
          | .ok (message, r') =>
            fromLoop c f a r'.pos
              (match (labels.getD []).head? with
               | some k => imSet acc k message
               | none => acc)
          | .err e => .err e
          | .panic => .panic
        | .err e => .err e
        | .panic => .panic
      else .ok acc := by
  fun_cases fromLoop c f a pos acc <;> simp only [*, if_true, if_false]
  rfl

theorem readLabels_of_le {a : BinArchive} {off : Nat} (h : off + 4 ≤ a.size) :
    BinArchive.readLabels a off = .ok (UMap.get a.labels off) := by
  rw [BinArchive.readLabels, validateCell_ok (by decide) h]

/-- The laid-out keys being new, every `imSet` of the reader appends. -/
theorem fromLoop_of_laid (c : Codec) (f : TextFormat) (a : BinArchive) (es : List (Str × Str)) :
    ∀ (off : Nat) (acc : List (Str × Str)), Laid c f a off es → (keysOf (acc ++ es)).Nodup →
      fromLoop c f a off acc = .ok (acc ++ es) := by
  induction es with
  | nil =>
    intro off acc hl _
    rw [fromLoop_unfold, if_neg (Nat.lt_irrefl _ <| hl ▸ ·), List.append_nil]
  | cons q qs ih =>
    obtain ⟨k, m⟩ := q
    intro off acc hl hnd
    obtain ⟨_, hsz, hlab, r', hread, hrest⟩ := hl
    have hk : k ∉ keysOf acc := UMap.not_mem_keys_of_nodup_append hnd
    rw [fromLoop_unfold, if_pos (by omega), readLabels_of_le hsz, hlab, hread]
    simp only [Option.getD_some, List.head?_cons]
    rw [TextIndexMap.imSet_fresh acc k m hk, ih r'.pos (acc ++ [(k, m)]) hrest, List.append_assoc]
    · rfl
    · rwa [List.append_assoc]

theorem readMessage_congr (c : Codec) (f : TextFormat) (a a' : BinArchive) (hd : a'.data = a.data)
    (r : Reader) : readMessage c f a' r = readMessage c f a r := by
  cases f <;> simp [readMessage, Reader.readSjisAligned, readUtf16Aligned, hd]

theorem readLabels_congr (a a' : BinArchive) (hd : a'.data = a.data)
    (hl : ∀ x, UMap.get a'.labels x = UMap.get a.labels x) (pos : Nat) :
    BinArchive.readLabels a' pos = BinArchive.readLabels a pos := by
  simp [BinArchive.readLabels, validateCell, BinArchive.size, hd, hl]

/-- `from_archive` depends only on the data region and the label lookup. -/
theorem fromLoop_congr (c : Codec) (f : TextFormat) (a a' : BinArchive) (hd : a'.data = a.data)
    (hl : ∀ x, UMap.get a'.labels x = UMap.get a.labels x) (pos : Nat) (acc : List (Str × Str)) :
    fromLoop c f a' pos acc = fromLoop c f a pos acc := by
  have hs : a'.size = a.size := congrArg List.length hd
  -- along the run of the loop on `a`, the loop on `a'` takes the same branch
  fun_induction fromLoop c f a pos acc <;>
    rw [fromLoop_unfold c f a', hs, readLabels_congr a a' hd hl, readMessage_congr c f a a' hd] <;>
    simp only [*, if_true, if_false]
  assumption

end Mila.Lemmas.TextLayout

namespace Mila.Props.C06
open Mila.Lemmas.TextLayout (blockOf)
open Mila.Lemmas.TextIndexMap (keysOf)

/-- The property's message domain: Shift-JIS-representable (`D`) text for the legacy format, any
NUL-free Unicode text — given by its scalar values — for the UTF-16 format. -/
def MsgDomain (D : Str → Prop) (f : TextFormat) (m : Str) : Prop :=
  match f with
  | .shiftJIS => D m
  | .unicode => ∃ cs, (∀ x ∈ cs, Utf.IsScalar x ∧ x ≠ 0) ∧ m = Utf.utf8Enc cs

/-- The quantifier of C06: distinct keys (an `IndexMap` has no others), a representable title when
the format stores one, messages in the format's domain. -/
structure InDomain (D : Str → Prop) (t : TextArchive) : Prop where
  keys_distinct : (keysOf t.entries).Nodup
  title : t.format = .unicode → D t.title
  messages : ∀ p ∈ t.entries, MsgDomain D t.format p.2

/-- Offset of the first message: the padded title block in the UTF-16 format, 0 otherwise. -/
def firstOffset (c : Codec) (t : TextArchive) : Nat :=
  match t.format with
  | .unicode => (blockOf c .shiftJIS t.title).length
  | .shiftJIS => 0

end Mila.Props.C06

namespace Mila.Lemmas.TextLayout
open Mila.TextArchive Mila.BinArchive
open Mila.Lemmas.TextIndexMap (keysOf)

theorem good_of_domain {c : Codec} {D : Str → Prop} (hc : c.Faithful D) {f : TextFormat}
    {m : Str} (h : Props.C06.MsgDomain D f m) : GoodMsg c f m := by
  cases f with
  | shiftJIS => exact hc m h
  | unicode => exact h

/-- What precedes the first message: the title's block in the UTF-16 format, nothing otherwise;
`firstOffset` is its length. -/
def titleBlock (c : Codec) (t : TextArchive) : Bytes :=
  match t.format with
  | .unicode => blockOf c .shiftJIS t.title
  | .shiftJIS => []

theorem titleBlock_length (c : Codec) (t : TextArchive) :
    (titleBlock c t).length = Props.C06.firstOffset c t := by
  unfold titleBlock Props.C06.firstOffset; split <;> rfl

theorem titleBlock_aligned (c : Codec) (t : TextArchive) : (titleBlock c t).length % 4 = 0 := by
  unfold titleBlock; split
  · exact blockOf_length_mod _ _ _
  · rfl

/-- The data stage (`:90-103`) on an in-domain archive. -/
theorem buildData_eq (c : Codec) (D : Str → Prop) (hc : c.Faithful D) (t : TextArchive)
    (hd : Props.C06.InDomain D t) :
    buildData c t = .ok (titleBlock c t ++ image c t.format t.entries,
      labelInfo c t.format (titleBlock c t).length t.entries) := by
  have hg : ∀ p ∈ t.entries, GoodMsg c t.format p.2 := fun p hp => good_of_domain hc (hd.messages p hp)
  have hw := writeEntries_good c t.format t.entries hg (titleBlock c t) [] (titleBlock_aligned c t)
  rw [List.nil_append] at hw
  obtain ⟨title, entries, dirty, format, endian⟩ := t
  cases format with
  | shiftJIS => exact hw
  | unicode =>
    have ht : writeSjisString c [] title = .ok ([] ++ blockOf c .shiftJIS title) :=
      writeMessage_good c .shiftJIS [] title (hc _ (hd.title rfl)) rfl
    simp only [buildData, ht]
    exact hw

theorem alloc_write (e : Endian) (data : Bytes) :
    (if data.isEmpty then Res.ok ((BinArchive.new e).allocateAtEnd data.length)
      else ((BinArchive.new e).allocateAtEnd data.length).writeBytes 0 data) =
    .ok { BinArchive.new e with data := data } := by
  cases data with
  | nil => rfl
  | cons x xs =>
    simp only [List.isEmpty_cons, Bool.false_eq_true, if_false, BinArchive.writeBytes,
      allocateAtEnd, BinArchive.new, BinArchive.size, List.nil_append, List.length_replicate,
      validateAddress, Nat.zero_add]
    simp [patch]

/-- The archive the writer builds from a 4-aligned prefix `pre` (the title block, or nothing). -/
def built (c : Codec) (f : TextFormat) (e : Endian) (pre : Bytes) (es : List (Str × Str)) :
    BinArchive :=
  { BinArchive.new e with
    data := pre ++ image c f es
    labels := (labelInfo c f pre.length es).map (fun p => (p.2, [p.1])) }

theorem label_inside (c : Codec) (f : TextFormat) (pre : Bytes) (es : List (Str × Str)) :
    ∀ p ∈ labelInfo c f pre.length es, p.2 ≤ (pre ++ image c f es).length := by
  intro p hp
  have := (labelInfo_bounds c f es pre.length p hp).2
  rw [List.length_append]
  omega

/-- The archive `serialize` builds (`:90-112`), explicitly. -/
theorem buildArchive_eq (c : Codec) (D : Str → Prop) (hc : c.Faithful D) (t : TextArchive)
    (hd : Props.C06.InDomain D t) :
    buildArchive c t = .ok (built c t.format t.endian (titleBlock c t) t.entries) := by
  simp only [buildArchive, buildData_eq c D hc t hd, alloc_write]
  rw [writeLabels_fresh _ _ (label_inside c _ _ _) (labelInfo_nodup c _ _ _) (fun _ _ => rfl)]
  rfl

theorem built_archWF (c : Codec) (f : TextFormat) (e : Endian) (pre : Bytes)
    (es : List (Str × Str)) : Ser.ArchWF (built c f e pre es) where
  inside := by intro x hx; simp [Ser.archCells, built, BinArchive.new] at hx
  disjoint := by simp [Ser.archCells, built, BinArchive.new]
  targets := by intro p hp; simp [built, BinArchive.new] at hp
  labelKeys := by
    show (((labelInfo c f pre.length es).map (fun p => (p.2, [p.1]))).map (·.1)).Nodup
    rw [List.map_map]
    exact labelInfo_nodup c f es pre.length
  labelAddrs := by
    intro p hp
    obtain ⟨q, hq, rfl⟩ := List.mem_map.mp (show p ∈ (labelInfo c f pre.length es).map _ from hp)
    exact label_inside c f pre es q hq

theorem built_inDomain (c : Codec) (D : Str → Prop) (f : TextFormat) (e : Endian) (pre : Bytes)
    (es : List (Str × Str)) (hkeys : ∀ k ∈ keysOf es, D k) : Ser.InDomain D (built c f e pre es) where
  text := by intro p hp; simp [built, BinArchive.new] at hp
  labels := by
    intro p hp n hn
    obtain ⟨q, hq, rfl⟩ := List.mem_map.mp (show p ∈ (labelInfo c f pre.length es).map _ from hp)
    simp only [List.mem_singleton] at hn
    subst hn
    apply hkeys
    rw [← labelInfo_keys c f es pre.length]
    exact List.mem_map_of_mem hq
  cstrings := by intro p hp; simp [built, BinArchive.new] at hp

end Mila.Lemmas.TextLayout
