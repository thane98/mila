/-
The address checks of `BinArchive` in closed form: each is a guard on an inequality, and a cell
access passes exactly when the cell lies inside the data.
-/
import MilaModel.Model.BinArchive

namespace Mila.BinArchive

theorem validateAddress_false (addr size : Nat) :
    validateAddress addr size false = if addr < size then .ok () else .err .OutOfBounds := by
  by_cases h : addr < size <;> simp [validateAddress, h]

theorem validateAddress_true (addr size : Nat) :
    validateAddress addr size true = if addr ≤ size then .ok () else .err .OutOfBounds := by
  by_cases h : addr ≤ size <;> simp [validateAddress, h]

theorem validateAddress_lt {x n : Nat} (h : x < n) : validateAddress x n false = .ok () := by
  rw [validateAddress_false, if_pos h]

theorem validateAddress_le {x n : Nat} (h : x ≤ n) : validateAddress x n true = .ok () := by
  rw [validateAddress_true, if_pos h]

theorem lt_of_validateAddress_false {x n : Nat} (h : validateAddress x n false = .ok ()) : x < n :=
  Decidable.byContradiction fun hx => by rw [validateAddress_false, if_neg hx] at h; cases h

theorem le_of_validateAddress_true {x n : Nat} (h : validateAddress x n true = .ok ()) : x ≤ n :=
  Decidable.byContradiction fun hx => by rw [validateAddress_true, if_neg hx] at h; cases h

theorem validateAlignment_eq (v : Nat) :
    validateAlignment v 4 = if v % 4 = 0 then .ok () else .err .Unaligned := by
  by_cases h : v % 4 = 0 <;> simp [validateAlignment, h]

/-- `validate_range` for arbitrary naturals: the end of the range is a checked 64-bit sum. -/
theorem validateRange_checked (addr len size : Nat) :
    validateRange addr len size =
      if (addr < size ∧ addr + len ≤ size) ∧ addr + len < 2 ^ 64 then .ok (addr + len)
      else .err .OutOfBounds := by
  unfold validateRange
  rw [validateAddress_false, validateAddress_true]
  by_cases h1 : addr < size <;> by_cases h2 : addr + len ≤ size <;>
    by_cases h3 : addr + len < 2 ^ 64 <;> simp [h1, h2, h3] <;> omega

theorem validateCell_ok {a : BinArchive} {p w : Nat} (hw : 0 < w) (h : p + w ≤ a.size) :
    validateCell a p w = .ok () := by
  unfold validateCell
  rw [validateAddress_lt (by omega)]
  exact validateAddress_le h

theorem validateCell_err {a : BinArchive} {p w : Nat} (h : a.size < p + w) :
    validateCell a p w = .err .OutOfBounds := by
  unfold validateCell
  rw [validateAddress_false, validateAddress_true]
  by_cases h1 : p < a.size
  · rw [if_pos h1, if_neg (by omega)]
  · rw [if_neg h1]

theorem fits_of_validateCell {a : BinArchive} {x w : Nat} (h : validateCell a x w = .ok ()) :
    x + w ≤ a.size := by
  unfold validateCell at h
  split at h
  · exact le_of_validateAddress_true h
  · rename_i hr
    exact absurd h hr

end Mila.BinArchive
