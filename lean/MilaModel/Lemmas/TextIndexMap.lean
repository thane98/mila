/-
Lemmas for C07.  The `IndexMap` operations of the text-archive model are the `UMap` operations, so
lookups and keys after `imSet` / `imRemove` come from `Lemmas/UMap`.  The state after a history of
calls (`C07.run`, defined first) is given in closed form by `run_eq`; its entries (`entriesR`) are
then compared with the history-defined `birth` / `lastSet` of the specification: lookups by
`imGet_entriesR`, key order by `entriesR_sorted`.
-/
import MilaModel.Model.TextArchive
import MilaModel.Spec.TextMap
import MilaModel.Lemmas.UMap
import MilaModel.Lemmas.TextEscape

namespace Mila.Props.C07
open Mila.TextArchive Mila.Spec.TextMap

/-- One API call on the model. -/
def step (t : TextArchive) : Op → TextArchive
  | .set k m => t.setMessage k m
  | .del k => t.deleteMessage k
  | .title s => t.setTitle s
  | .has _ => t
  | .get _ => t

/-- The model state after the history `h`, starting from `TextArchive::new(f, e)`. -/
def run (f : TextFormat) (e : Endian) (h : List Op) : TextArchive :=
  h.foldl step (TextArchive.new f e)

end Mila.Props.C07

namespace Mila.Lemmas.TextIndexMap
open Mila.TextArchive
open Mila.Spec.TextMap (Op birthR lastSetR opKey strictlyIncreasing titleOf anySet)

/-- The keys in order: `UMap.keys m`, by `rfl`. -/
abbrev keysOf (m : List (Str × Str)) : List Str := m.map (·.1)

theorem imGet_eq_get (m : List (Str × Str)) (k : Str) : imGet m k = UMap.get m k := rfl

theorem imContains_eq_contains (m : List (Str × Str)) (k : Str) : imContains m k = UMap.contains m k := rfl

theorem imRemove_eq_remove (m : List (Str × Str)) (k : Str) : imRemove m k = UMap.remove m k := rfl

/-- `imSet` keeps the key of the entry it replaces where `UMap.insert` writes the new key: the
same pair. -/
theorem imSet_eq_insert (m : List (Str × Str)) (k v : Str) : imSet m k v = UMap.insert m k v := by
  have : (fun p : Str × Str => if p.1 = k then (p.1, v) else p) = fun p => if p.1 = k then (k, v) else p :=
    funext fun p => by by_cases h : p.1 = k <;> simp only [h, if_true, if_false]
  rw [imSet, this]
  rfl

theorem imContains_iff (m : List (Str × Str)) (k : Str) : imContains m k = true ↔ k ∈ keysOf m :=
  UMap.any_key_iff m k

theorem imSet_fresh (m : List (Str × Str)) (k v : Str) (h : k ∉ keysOf m) :
    imSet m k v = m ++ [(k, v)] :=
  (imSet_eq_insert m k v).trans (UMap.insert_of_not_mem m k v h)

theorem keysOf_imSet (m : List (Str × Str)) (k v : Str) :
    keysOf (imSet m k v) = if k ∈ keysOf m then keysOf m else keysOf m ++ [k] := by
  rw [imSet_eq_insert]
  -- the two `if`s decide `k ∈ _` through different `BEq Str` instances
  exact (UMap.keys_insert m k v).trans (by congr)

theorem keysOf_imRemove (m : List (Str × Str)) (k : Str) :
    keysOf (imRemove m k) = (keysOf m).filter (fun x => ¬ x = k) := by
  simp only [keysOf, imRemove, List.filter_map]
  rfl

theorem imGet_cons (p : Str × Str) (ps : List (Str × Str)) (k : Str) :
    imGet (p :: ps) k = if p.1 = k then some p.2 else imGet ps k :=
  UMap.get_cons p ps k

theorem imGet_isSome (m : List (Str × Str)) (k : Str) : (imGet m k).isSome = imContains m k := by
  induction m with
  | nil => rfl
  | cons p ps ih =>
    rw [imGet_cons]
    simp only [imContains, List.any_cons] at ih ⊢
    by_cases h : p.1 = k <;> simp [h, ih]

theorem imGet_imSet (m : List (Str × Str)) (k v k' : Str) :
    imGet (imSet m k v) k' = if k' = k then some v else imGet m k' :=
  imSet_eq_insert m k v ▸ UMap.get_insert m k v k'

theorem imGet_imRemove (m : List (Str × Str)) (k k' : Str) :
    imGet (imRemove m k) k' = if k' = k then none else imGet m k' :=
  UMap.get_remove m k k'

/-- Storing the value a key already has changes nothing: with distinct keys the entry under `k` is
`(k, v)` itself. -/
theorem imSet_same (m : List (Str × Str)) (k v : Str) (hnd : (keysOf m).Nodup)
    (hg : imGet m k = some v) : imSet m k v = m := by
  have hm : (k, v) ∈ m := UMap.mem_of_get hg
  rw [imSet, if_pos ((imContains_iff m k).mpr (List.mem_map_of_mem hm)),
    List.map_congr_left (g := id), List.map_id]
  intro p hp
  split
  · rw [UMap.eq_of_key_eq hnd hp hm ‹_›]
    rfl
  · rfl

theorem birthR_lt {h : List Op} {k : Bytes} {i : Nat} (hb : birthR h k = some i) : i < h.length := by
  fun_induction birthR h k generalizing i with
  | case1 | case5 => cases hb
  | case2 _ _ _ _ hj ih =>
    cases hb
    exact Nat.lt_succ_of_lt (ih hj)
  | case3 =>
    cases hb
    exact Nat.lt_succ_self _
  | case4 _ _ _ _ _ ih | case6 _ _ _ _ ih | case7 _ _ _ _ _ ih => exact Nat.lt_succ_of_lt (ih hb)

theorem birthR_isSome_eq_lastSetR (h : List Op) (k : Bytes) :
    (birthR h k).isSome = (lastSetR h k).isSome := by
  fun_induction birthR h k with
  | case1 => rfl
  | case2 | case3 | case5 =>
    -- the newest call is on `k` itself: after a `set` both are `some`, after a `del` both `none`
    simp only [lastSetR, if_true]
    rfl
  | case4 | case6 | case7 => simp only [lastSetR, *, if_false]

theorem birthR_cons_of_ne {op : Op} {older : List Op} {k : Bytes} (h : opKey op ≠ some k) :
    birthR (op :: older) k = birthR older k := by
  cases op <;> simp only [opKey, ne_eq, Option.some.injEq] at h <;> simp only [birthR, h, if_false]

theorem birthR_set_of_isSome {older : List Op} {k : Bytes} (m : Bytes) (h : (birthR older k).isSome) :
    birthR (.set k m :: older) = birthR older := by
  funext k'
  simp only [birthR]
  split
  · subst k'
    obtain ⟨i, hi⟩ := Option.isSome_iff_exists.mp h
    rw [hi]
  · rfl

theorem birthR_mem_ops {hr : List Op} {k : Bytes} (h : (birthR hr k).isSome) :
    ∃ op ∈ hr, opKey op = some k := by
  induction hr with
  | nil => cases h
  | cons op older ih =>
    by_cases e : opKey op = some k
    · exact ⟨op, List.mem_cons_self, e⟩
    · obtain ⟨op', hm, hk⟩ := ih (birthR_cons_of_ne e ▸ h)
      exact ⟨op', List.mem_cons_of_mem _ hm, hk⟩

theorem strictlyIncreasing_pairwise :
    ∀ l : List Nat, strictlyIncreasing l = true → l.Pairwise (· < ·)
  | [], _ => .nil
  | [_], _ => List.pairwise_singleton _ _
  | a :: b :: rest, h => by
    simp only [strictlyIncreasing, Bool.and_eq_true, decide_eq_true_eq] at h
    have ih := strictlyIncreasing_pairwise (b :: rest) h.2
    refine List.pairwise_cons.mpr ⟨fun x hx => ?_, ih⟩
    rcases List.mem_cons.mp hx with rfl | hx
    · exact h.1
    · exact Nat.lt_trans h.1 (List.rel_of_pairwise_cons ih hx)

/-- The entries of an archive that started empty, after the calls `hr` (newest first, the order in
which `birthR` and `lastSetR` recurse): `set_message` stores the unescaped message,
`delete_message` removes the key, the other calls leave the entries alone. -/
def entriesR : List Op → List (Str × Str)
  | [] => []
  | .set k m :: older => imSet (entriesR older) k (TextArchive.unescape m)
  | .del k :: older => imRemove (entriesR older) k
  | _ :: older => entriesR older

/-- The state after a history in closed form.  Each field is a function of the calls alone, read
newest call first (the order in which the specification's `birthR`, `lastSetR` and `titleR`
recurse). -/
theorem run_eq (f : TextFormat) (e : Endian) (h : List Op) :
    Props.C07.run f e h = ⟨titleOf h, entriesR h.reverse, anySet h, f, e⟩ := by
  rw [Props.C07.run, List.foldl_eq_foldr_reverse, titleOf, anySet, ← List.any_reverse]
  generalize h.reverse = hr
  induction hr with
  | nil => rfl
  | cons op older ih =>
    rw [List.foldr_cons, ih]
    cases op <;> rfl

/-- Membership of `k`, `has_message`, `get_message` and the stored value all read off this. -/
theorem imGet_entriesR (hr : List Op) (k : Bytes) :
    imGet (entriesR hr) k = (lastSetR hr k).map Spec.TextMap.unescape := by
  induction hr with
  | nil => rfl
  | cons op older ih =>
    cases op with
    | set k' m =>
      simp only [entriesR, imGet_imSet, lastSetR, TextEscape.unescape_eq, ih, eq_comm (a := k)]
      split <;> rfl
    | del k' =>
      simp only [entriesR, imGet_imRemove, lastSetR, ih, eq_comm (a := k)]
      split <;> rfl
    | title s => exact ih
    | has k' => exact ih
    | get k' => exact ih

theorem mem_keysOf_entriesR (hr : List Op) (k : Bytes) :
    k ∈ keysOf (entriesR hr) ↔ (birthR hr k).isSome := by
  rw [← imContains_iff, ← imGet_isSome, imGet_entriesR, Option.isSome_map, birthR_isSome_eq_lastSetR]

/-- `a` was born before `b`: the order `KeysSpec` asks of the key list. -/
abbrev Before (hr : List Op) (a b : Bytes) : Prop :=
  ∃ i j, birthR hr a = some i ∧ birthR hr b = some j ∧ i < j

theorem Before.mono {hr hr' : List Op} {a b : Bytes} (ha : birthR hr' a = birthR hr a)
    (hb : birthR hr' b = birthR hr b) (h : Before hr a b) : Before hr' a b := by
  unfold Before
  rwa [ha, hb]

theorem Before.ne {hr : List Op} {a b : Bytes} : Before hr a b → a ≠ b := by
  rintro ⟨i, j, hi, hj, hij⟩ rfl
  rw [hi] at hj
  cases hj
  exact Nat.lt_irrefl _ hij

theorem entriesR_sorted (hr : List Op) : (keysOf (entriesR hr)).Pairwise (Before hr) := by
  induction hr with
  | nil => exact .nil
  | cons op older ih =>
    have hmem := mem_keysOf_entriesR older
    -- keys whose birth the call leaves alone stay in order
    have keep : ∀ {l : List Bytes}, (∀ a ∈ l, birthR (op :: older) a = birthR older a) →
        l.Pairwise (Before older) → l.Pairwise (Before (op :: older)) :=
      fun h p => p.imp_of_mem fun ha hb => Before.mono (h _ ha) (h _ hb)
    cases op with
    | set k m =>
      rw [entriesR, keysOf_imSet]
      split
      · -- re-setting a present key keeps its place and every birth
        exact keep (fun a _ => congrFun (birthR_set_of_isSome m ((hmem k).mp ‹_›)) a) ih
      · -- a new (or re-added) key is appended with the latest birth
        rename_i hk
        have hold : ∀ a ∈ keysOf (entriesR older), birthR (.set k m :: older) a = birthR older a :=
          fun a ha => birthR_cons_of_ne fun e1 => hk (Option.some.inj e1 ▸ ha)
        have hnew : birthR (.set k m :: older) k = some older.length := by
          have : birthR older k = none := by simpa [hk] using hmem k
          simp only [birthR, this, if_true]
        refine List.pairwise_append.mpr ⟨keep hold ih, List.pairwise_singleton _ _, fun a ha b hb => ?_⟩
        rw [List.mem_singleton.mp hb]
        obtain ⟨i, hi⟩ := Option.isSome_iff_exists.mp ((hmem a).mp ha)
        exact ⟨i, older.length, (hold a ha).trans hi, hnew, birthR_lt hi⟩
    | del k =>
      rw [entriesR, keysOf_imRemove]
      refine keep (fun a ha => birthR_cons_of_ne fun e1 => ?_) (ih.filter _)
      exact of_decide_eq_true (List.mem_filter.mp ha).2 (Option.some.inj e1).symm
    | title s => exact ih
    | has k => exact ih
    | get k => exact ih

end Mila.Lemmas.TextIndexMap
