/-
C05, part 3: what an accepted buffer satisfies.  For `BinArchive::from_bytes`: the regions the header
declares fit in the buffer, and the data region has exactly the declared size — the one `resize`
request, which `Parsers.binRequests` logs and which is therefore bounded by the input length.  For
`fe9_arc::parse`: the buffer holds its whole entry table and every declared file range.
-/
import MilaModel.Lemmas.BinParse
import MilaModel.Lemmas.Pack
import MilaModel.Model.Parsers

namespace Mila.ParsersLemmas
open Mila BinArchive

/-- Header word `data_size` (bytes 4..8), bin_archive.rs `from_bytes`. -/
def hdrDataSize (e : Endian) (bytes : Bytes) : Nat := e.dec (slice bytes 4 4)
/-- Header word `pointer_count` (bytes 8..12). -/
def hdrPointerCount (e : Endian) (bytes : Bytes) : Nat := e.dec (slice bytes 8 4)
/-- Header word `label_count` (bytes 12..16). -/
def hdrLabelCount (e : Endian) (bytes : Bytes) : Nat := e.dec (slice bytes 12 4)

/-- What the header declares: header + data + pointer table + label table. -/
def hdrDeclared (e : Endian) (bytes : Bytes) : Nat :=
  hdrDataSize e bytes + 4 * hdrPointerCount e bytes + 8 * hdrLabelCount e bytes + 0x20

/-- `hdrDeclared` in the shape in which `parse` and `binRequests` form the sum. -/
theorem hdrDeclared_eq (e : Endian) (bytes : Bytes) : hdrDeclared e bytes =
    e.dec (slice bytes 4 4) + e.dec (slice bytes 8 4) * 4 + e.dec (slice bytes 12 4) * 8 + 0x20 := by
  unfold hdrDeclared hdrDataSize hdrPointerCount hdrLabelCount
  rw [Nat.mul_comm 4, Nat.mul_comm 8]

theorem hdrDataSize_le (e : Endian) (bytes : Bytes) : hdrDataSize e bytes + 0x20 ≤ hdrDeclared e bytes := by
  unfold hdrDeclared; omega

/-- A header that declares more than the buffer holds is `ArchiveTooSmall`.  The code forms the sum in `u64` from three `u32` words, so the natural-number sum of the model is
the machine's (`hdrDeclared_lt`). -/
theorem parse_too_small (c : Codec) (e : Endian) (bytes : Bytes)
    (h : hdrDeclared e bytes > bytes.length) : parse c e bytes = .err .TooSmall := by
  rw [hdrDeclared_eq] at h
  unfold parse
  split
  · rfl
  · exact if_pos h

theorem parse_short (c : Codec) (e : Endian) (bytes : Bytes) (h : bytes.length < 0x20) :
    parse c e bytes = .err .TooSmall :=
  if_pos h

theorem dec_slice4_lt (e : Endian) (bytes : Bytes) (off : Nat) : e.dec (slice bytes off 4) < 2 ^ 32 :=
  dec_lt_pow (k := 4) e (List.length_take_le ..)

theorem hdrDeclared_lt (e : Endian) (bytes : Bytes) : hdrDeclared e bytes < 2 ^ 36 := by
  have h1 := dec_slice4_lt e bytes 4
  have h2 := dec_slice4_lt e bytes 8
  have h3 := dec_slice4_lt e bytes 12
  unfold hdrDeclared hdrDataSize hdrPointerCount hdrLabelCount
  omega

theorem parse_ok_header {c : Codec} {e : Endian} {bytes : Bytes} {a : BinArchive}
    (h : parse c e bytes = .ok a) :
    0x20 ≤ bytes.length ∧ hdrDeclared e bytes ≤ bytes.length ∧
      a.data = slice bytes 0x20 (hdrDataSize e bytes) ∧ a.data.length = hdrDataSize e bytes := by
  have h1 : ¬ bytes.length < 0x20 := fun hlt => by rw [parse_short c e bytes hlt] at h; cases h
  have h2 : ¬ hdrDeclared e bytes > bytes.length := fun hgt => by
    rw [parse_too_small c e bytes hgt] at h; cases h
  have hd : a.data = slice bytes 0x20 (hdrDataSize e bytes) := parse_data h
  have := hdrDataSize_le e bytes
  exact ⟨by omega, by omega, hd, hd ▸ length_slice _ _ _ (by omega)⟩

open Parsers in
theorem binRequests_eq (e : Endian) (bytes : Bytes) :
    binRequests e bytes =
      if bytes.length < 0x20 ∨ hdrDeclared e bytes > bytes.length then [] else [hdrDataSize e bytes] := by
  rw [hdrDeclared_eq]
  unfold binRequests hdrDataSize
  simp only []  -- puts the values of the `let`s in, so that `split` finds the two `if`s
  split
  · rw [if_pos (.inl ‹_›)]
  · split
    · rw [if_pos (.inr ‹_›)]
    · rw [if_neg (not_or.2 ⟨‹_›, ‹_›⟩)]

open Parsers in
theorem binRequests_le (e : Endian) (bytes : Bytes) : ∀ r ∈ binRequests e bytes, r ≤ bytes.length := by
  rw [binRequests_eq]
  split
  · nofun
  · have := hdrDataSize_le e bytes
    simp only [List.mem_singleton, forall_eq]
    omega

section pack
open Fe9Arc PackLemmas
open Mila.Spec.Pack (word)

theorem word4_lt {raw : Bytes} {off v : Nat} (h : word raw off 4 = some v) : v < 2 ^ 32 := by
  unfold word at h
  split at h
  · cases h
    exact Nat.lt_of_lt_of_le (ofBe_lt _)
      (Nat.pow_le_pow_right (by decide) (List.length_take_le ..) : _ ≤ 256 ^ 4)
  · cases h

theorem readBe_ok {raw : Bytes} {pos k v p' : Nat} (h : readBe raw pos k = .ok (v, p')) :
    pos + k ≤ raw.length ∧ p' = pos + k := by
  unfold readBe at h
  split at h
  · cases h; exact ⟨‹_›, rfl⟩
  · cases h

theorem readEntry_fits {raw : Bytes} {pos : Nat} {e : Entry} {p' : Nat} :
    readEntry raw pos = .ok (e, p') → pos + 16 ≤ raw.length := by
  fun_cases readEntry raw pos <;> intro h <;> cases h
  rename_i h1 _ _ h2 _ _ h3 _ h4
  have := readBe_ok h1; have := readBe_ok h2; have := readBe_ok h3; have := readBe_ok h4
  omega

theorem readEntries_fits (raw : Bytes) (n pos : Nat) {es : List Entry} :
    readEntries raw n pos = .ok es → n = 0 ∨ pos + 16 * n ≤ raw.length := by
  fun_induction readEntries raw n pos generalizing es <;> intro h <;> cases h
  · exact .inl rfl
  · rename_i he _ hes ih
    have hfit := readEntry_fits he
    rw [readEntry_ok hfit] at he
    cases he
    have := ih hes
    omega

/-- Every entry the file loop accepted lies inside the buffer (`raw.get(start..end)`,
fe9_arc.rs `parse`). -/
theorem readFiles_bounds (c : Codec) (raw : Bytes) (acc : Files) (es : List Entry) {r : Files} :
    readFiles c raw acc es = .ok r → ∀ e ∈ es, e.fileAddress + e.fileSizeUnpadded ≤ raw.length := by
  fun_induction readFiles c raw acc es <;> intro h
  · nofun
  · rename_i hf ih
    refine List.forall_mem_cons.2 ⟨?_, ih h⟩
    revert hf
    fun_cases readFile c raw _ _ <;> intro hf <;> cases hf
    assumption
  · cases h
  · cases h

theorem pack_ok_bounds {c : Codec} {raw : Bytes} {m : Files} (h : Fe9Arc.parse c raw = .ok m) :
    ∃ n, word raw 4 2 = some n ∧ (n = 0 ∨ 8 + 16 * n ≤ raw.length) ∧
      ∀ i, i < n → (entryOf raw (8 + 16 * i)).fileAddress + (entryOf raw (8 + 16 * i)).fileSizeUnpadded
        ≤ raw.length := by
  revert h
  fun_cases Fe9Arc.parse c raw <;> intro h <;> try cases h
  rename_i h1 _ n _ h2 metas hes
  obtain ⟨_, rfl⟩ := readBe_ok h1
  rw [readBe_eq] at h2
  split at h2 <;> cases h2
  have hfit := readEntries_fits raw _ _ hes
  refine ⟨n, ‹_›, hfit, fun i hi => ?_⟩
  -- the table that was read is the table of `entryOf`s, so record `i` went through `readFile`
  have htab := readEntries_ok raw n 0 (by simpa using hfit)
  rw [Nat.mul_zero, Nat.add_zero, hes] at htab
  cases htab
  exact readFiles_bounds c raw [] _ h _ (List.mem_map.2 ⟨i, List.mem_range'_1.2 ⟨Nat.zero_le i, by omega⟩, rfl⟩)

end pack

end Mila.ParsersLemmas
