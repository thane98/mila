/-
The specification's encoder produces conforming streams: every valid token list has a
conforming stream (non-vacuity of the decoder theorems for all token lists).
-/
import MilaModel.Spec.LzStream
import MilaModel.Lemmas.LzBasic

namespace Mila.Spec.Lz

theorem groups_take_drop (ext : Bool) (f : UInt8) (toks : List Tok) (bs : Bytes) (hne : toks ≠ [])
    (hf : FlagOk f (toks.take 8)) (hg : Groups ext (toks.drop 8) bs) :
    Groups ext toks (f :: ((toks.take 8).flatMap (tokBytes ext) ++ bs)) := by
  have hlen : 0 < toks.length := List.length_pos_iff.2 hne
  have := Groups.group f (toks.take 8) (toks.drop 8) bs
    (by intro h0; have := congrArg List.length h0; rw [List.length_take, List.length_nil] at this; omega)
    (by simp; omega)
    (by
      intro hr
      have : ¬ toks.length ≤ 8 := fun hc => hr (List.drop_eq_nil_of_le hc)
      rw [List.length_take]; omega)
    hf hg
  rwa [List.take_append_drop] at this

theorem encodeGroups_groups (ext : Bool) (junk : UInt8) (fuel : Nat) (toks : List Tok)
    (h : toks.length ≤ fuel) : Groups ext toks (encodeGroups ext junk fuel toks) := by
  fun_induction encodeGroups ext junk fuel toks with
  | case1 toks =>
    obtain rfl : toks = [] := List.eq_nil_of_length_eq_zero (by omega)
    exact Groups.nil
  | case2 => exact Groups.nil
  | case3 fuel toks hne _ _ _ _ ih =>
    refine groups_take_drop ext _ toks _ (fun e => hne e) ?_ (ih (by rw [List.length_drop]; omega))
    intro i hi
    have hl8 : (toks.take 8).length ≤ 8 := by simp; omega
    have hf := flagOf_testBit (toks.take 8) 0 i hi (by omega)
    have hlt := flagOf_lt (toks.take 8) 0 (by omega)
    simp only [Nat.zero_add, Nat.sub_zero] at hf hlt
    simp +zetaDelta only [UInt8.toNat_ofNat']
    split
    · -- the junk bits lie below the bits of the group
      have hj : junk.toNat % 2 ^ (8 - (toks.take 8).length) < 2 ^ 8 :=
        Nat.lt_of_lt_of_le (Nat.mod_lt _ (Nat.pow_pos (by omega)))
          (Nat.pow_le_pow_right (by omega) (by omega))
      rw [Nat.mod_eq_of_lt (Nat.or_lt_two_pow hlt hj), Nat.testBit_or, hf, Nat.testBit_mod_two_pow]
      have : ¬ (7 - i < 8 - (toks.take 8).length) := by omega
      simp only [this, decide_false, Bool.false_and, Bool.or_false]
    · rw [Nat.mod_eq_of_lt hlt, hf]

theorem encode_conforms (ext : Bool) (junk : UInt8) (toks : List Tok) (hv : Valid ext toks)
    (hb : (expand toks).size < (if ext then 2 ^ 32 else 2 ^ 24)) :
    Conforms ext toks (encode ext junk toks) :=
  ⟨hv, ⟨_, rfl, encodeGroups_groups ext junk _ toks (Nat.le_refl _)⟩, hb⟩

end Mila.Spec.Lz
