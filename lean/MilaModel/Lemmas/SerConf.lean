/-
C01: the canonical image of a well-formed content conforms to the format (`Spec.Image.Conforms`).
Together with `serialize_eq_canonical_plus` this is "the serialized image is well-formed".
-/
import MilaModel.Lemmas.SerCanon

namespace Mila.Ser
open Spec.Image

/-- The label-table entries of one address, in table order, are that address's bucket. -/
theorem entries_filter {β : Type} : ∀ (l : List (Nat × List β)), (l.map (·.1)).Nodup → ∀ (x : Nat),
    ((l.flatMap (fun p => p.2.map (fun n => (p.1, n)))).filter (fun r => r.1 = x)).map (·.2)
      = (UMap.get l x).getD [] := by
  intro l
  induction l with
  | nil => intro _ x; rfl
  | cons p ps ih =>
    intro nd x
    rw [List.map_cons, List.nodup_cons] at nd
    rw [List.flatMap_cons, List.filter_append, List.map_append, UMap.get_cons, ih nd.2 x]
    by_cases hp : p.1 = x
    · subst hp
      have h1 : (p.2.map (fun n => (p.1, n))).filter (fun r => r.1 = p.1) = p.2.map (fun n => (p.1, n)) := by
        rw [List.filter_eq_self]; intro r hr
        obtain ⟨n, _, rfl⟩ := List.mem_map.mp hr; simp
      have h2 : UMap.get ps p.1 = none :=
        (UMap.get_eq_none_iff ps p.1).mpr (fun q hq e => nd.1 (e ▸ List.mem_map_of_mem hq))
      simp [h1, h2, List.map_map, Function.comp_def]
    · have h1 : (p.2.map (fun n => (p.1, n))).filter (fun r => r.1 = x) = [] := by
        rw [List.filter_eq_nil_iff]; intro r hr
        obtain ⟨n, _, rfl⟩ := List.mem_map.mp hr; simpa using hp
      simp [h1, hp]

theorem flatMap_pair_getElem {α : Type} (f g : α → Nat) : ∀ (l : List α) (i : Nat) (h : i < l.length),
    (l.flatMap (fun p => [f p, g p]))[2 * i]? = some (f l[i]) ∧
    (l.flatMap (fun p => [f p, g p]))[2 * i + 1]? = some (g l[i]) := by
  intro l
  induction l with
  | nil => intro i h; cases h
  | cons x xs ih =>
    intro i h
    rw [List.flatMap_cons]
    cases i with
    | zero => simp
    | succ i =>
      have := ih i (by simpa using h)
      rw [Nat.mul_succ]
      simp only [List.cons_append, List.nil_append, List.getElem?_cons_succ, List.getElem_cons_succ]
      exact this

theorem offsetIn_entry_le (enc : Bytes → Option Bytes) (ks : List Bytes) (s : Bytes) (hs : s ∈ ks) :
    offsetIn enc ks s + (entry enc s).length ≤ (ks.flatMap (entry enc)).length := by
  induction ks with
  | nil => cases hs
  | cons x xs ih =>
    by_cases hx : x = s
    · simp [offsetIn, hx]
    · have := ih (by simpa [Ne.symm hx] using hs)
      simp only [offsetIn, if_neg hx, List.flatMap_cons, List.length_append]
      omega

theorem sortedLabels_perm (e : Endian) (K : Content) : (sortedLabels e K).Perm K.labels := by
  cases e <;> exact List.mergeSort_perm _ _

theorem labelEntries_length (e : Endian) (K : Content) : (labelEntries e K).length = K.labelCount := by
  simp only [labelEntries, Content.labelCount, List.length_flatMap, List.length_map]
  exact ((sortedLabels_perm e K).map _).sum_nat

theorem ptrTable_perm (K : Content) : (ptrTable K).Perm K.cells := by
  unfold ptrTable Content.cells
  apply List.Perm.append
  · exact (List.mergeSort_perm _ _).map _
  · exact (stringGroups_perm (sortedStrings K)).trans ((List.mergeSort_perm _ _).map _)

theorem canonTextStart_eq (e : Endian) (K : Content) : canonTextStart e K = K.textStart := by
  unfold canonTextStart Content.textStart
  rw [(ptrTable_perm K).length_eq, labelEntries_length]

theorem patchCells_perm (K : Content) (v : Nat × Bytes → Nat) :
    ((sortedPointers K ++ (sortedStrings K).map (fun p => (p.1, v p))).map (·.1)).Perm K.cells := by
  rw [List.map_append, List.map_map]
  exact ((List.mergeSort_perm _ _).map _).append ((List.mergeSort_perm K.strings byAddr).map _)

theorem patchCells_inside {K : Content} (wf : K.WF) (v : Nat × Bytes → Nat) :
    ∀ w ∈ sortedPointers K ++ (sortedStrings K).map (fun p => (p.1, v p)), w.1 + 4 ≤ K.data.length :=
  fun _ hw => wf.inside _ ((patchCells_perm K v).mem_iff.mp (List.mem_map_of_mem hw))

theorem canonData_length (enc : Bytes → Option Bytes) (e : Endian) (K : Content) (wf : K.WF) :
    (canonData enc e K).length = K.data.length :=
  length_patchWords e _ _ (patchCells_inside wf _)

theorem canonical_length (enc : Bytes → Option Bytes) (e : Endian) (K : Content) (wf : K.WF) :
    (canonical enc e K).length = 0x20 + K.textStart + (textSection enc e K).length := by
  unfold canonical
  simp only [List.length_append, words_length, List.length_replicate, canonData_length enc e K wf,
    List.length_cons, List.length_nil]
  rw [← canonTextStart_eq e K]
  unfold canonTextStart labelTable
  rw [flatMap_pair_length]
  omega

def headerWords (enc : Bytes → Option Bytes) (e : Endian) (K : Content) : List Nat :=
  [0x20 + canonTextStart e K + (textSection enc e K).length, K.data.length,
    (ptrTable K).length, (labelEntries e K).length]

/-- The image section by section: header (four words and 16 reserved bytes), data, the two
tables, text. -/
theorem canonical_eq (enc : Bytes → Option Bytes) (e : Endian) (K : Content) :
    canonical enc e K = (words e (headerWords enc e K) ++ List.replicate 16 0) ++ (canonData enc e K ++
      (words e (ptrTable K) ++ (words e (labelTable enc e K) ++ textSection enc e K))) := by
  simp only [canonical, headerWords, List.append_assoc]

theorem not_covered {K : Content} {i : Nat} (h : ¬ K.covered i) : ∀ x ∈ K.cells, i < x ∨ x + 4 ≤ i := by
  intro x hx
  by_cases h1 : i < x
  · exact Or.inl h1
  · by_cases h2 : x + 4 ≤ i
    · exact Or.inr h2
    · exact absurd ⟨x, hx, Nat.le_of_not_lt h1, Nat.lt_of_not_le h2⟩ h

theorem canonical_conforms (enc : Bytes → Option Bytes) (e : Endian) (K : Content) (wf : K.WF)
    (encS : ∀ p ∈ K.strings, ∃ b, enc p.2 = some b)
    (encL : ∀ p ∈ K.labels, ∀ n ∈ p.2, ∃ b, enc n = some b)
    (small : (canonical enc e K).length < 2 ^ 32) :
    Conforms enc e (canonical enc e K) K := by
  have hsmall : 0x20 + (K.data.length + 4 * K.cells.length + 8 * K.labelCount)
      + (textSection enc e K).length < 2 ^ 32 := by
    rw [canonical_length enc e K wf] at small; exact small
  clear small
  -- every number the image stores fits a word
  obtain ⟨hbD, hbC, hbL⟩ :
      K.data.length < 2 ^ 32 ∧ K.cells.length < 2 ^ 32 ∧ K.labelCount < 2 ^ 32 := by omega
  have hbIn : ∀ x, x ≤ K.data.length → x < 2 ^ 32 := fun x hx => Nat.lt_of_le_of_lt hx hbD
  have hbT : ∀ o, o < (textSection enc e K).length → K.textStart + o < 2 ^ 32 := by
    intro o ho; unfold Content.textStart; omega
  have hlen := canonical_length enc e K wf
  have hts := canonTextStart_eq e K
  have hnp : (ptrTable K).length = K.cells.length := (ptrTable_perm K).length_eq
  have hnl := labelEntries_length e K
  -- lengths of the sections in front of the text
  have hH : (words e (headerWords enc e K) ++ List.replicate 16 0).length = 0x20 := by
    simp [words_length, headerWords]
  have hD := canonData_length enc e K wf
  have hP : (words e (ptrTable K)).length = 4 * K.cells.length := by rw [words_length, hnp]
  have hL : (words e (labelTable enc e K)).length = 8 * K.labelCount := by
    rw [words_length, labelTable, flatMap_pair_length, hnl]; exact (Nat.mul_assoc 4 2 _).symm
  -- reading each section of the image
  have rdHdr : ∀ i v, (headerWords enc e K)[i]? = some v → v < 2 ^ 32 →
      wordAt e (canonical enc e K) (4 * i) = some v := by
    intro i v hi hv
    rw [canonical_eq, List.append_assoc]; exact wordAt_words e _ _ i v hi hv
  have rdData : ∀ x, x + 4 ≤ K.data.length →
      wordAt e (canonical enc e K) (0x20 + x) = wordAt e (canonData enc e K) x := by
    intro x hx
    rw [canonical_eq, wordAt_append_right e hH,
      wordAt_append_left _ _ _ _ (by rw [hD]; exact hx)]
  have rdPtr : ∀ i v, (ptrTable K)[i]? = some v → v < 2 ^ 32 →
      wordAt e (canonical enc e K) (0x20 + K.data.length + 4 * i) = some v := by
    intro i v hi hv
    rw [canonical_eq, Nat.add_assoc, wordAt_append_right e hH,
      wordAt_append_right e hD]
    exact wordAt_words e _ _ i v hi hv
  have rdLbl : ∀ j v, (labelTable enc e K)[j]? = some v → v < 2 ^ 32 →
      wordAt e (canonical enc e K) (0x20 + K.data.length + 4 * K.cells.length + 4 * j) = some v := by
    intro j v hj hv
    rw [canonical_eq, Nat.add_assoc, Nat.add_assoc, wordAt_append_right e hH,
      wordAt_append_right e hD, wordAt_append_right e hP]
    exact wordAt_words e _ _ j v hj hv
  have rdText : ∀ off b, StrAt (textSection enc e K) off b →
      StrAt (canonical enc e K) (0x20 + K.textStart + off) b := by
    intro off b h
    rw [canonical_eq, show 0x20 + K.textStart + off = 0x20 + (K.data.length +
      (4 * K.cells.length + (8 * K.labelCount + off))) by simp only [Content.textStart, Nat.add_assoc],
      strAt_append_right hH, strAt_append_right hD, strAt_append_right hP, strAt_append_right hL]
    exact h
  -- every string present is stored, at an offset inside the text section
  have hstoredS : ∀ p ∈ K.strings, p.2 ∈ stored e K := by
    intro p hp
    exact (mem_dedup _ _).mpr (List.mem_append_right _ (List.mem_map_of_mem (List.mem_mergeSort.mpr hp)))
  have hstoredL : ∀ x ∈ labelEntries e K, x.2 ∈ stored e K := by
    intro x hx
    exact (mem_dedup _ _).mpr (List.mem_append_left _ (List.mem_map_of_mem hx))
  have hoff : ∀ s ∈ stored e K, offsetIn enc (stored e K) s < (textSection enc e K).length := by
    intro s hs
    exact Nat.lt_of_lt_of_le (Nat.lt_add_of_pos_right (entry_length_pos enc s))
      (offsetIn_entry_le enc (stored e K) s hs)
  have hstrAt : ∀ s b, s ∈ stored e K → enc s = some b →
      StrAt (canonical enc e K) (0x20 + K.textStart + offsetIn enc (stored e K) s) b :=
    fun s b hs hb => rdText _ b (strAt_pool enc (stored e K) s b hs hb)
  have hin := patchCells_inside wf (fun p => canonTextStart e K + offsetIn enc (stored e K) p.2)
  have hdisj : (sortedPointers K ++ (sortedStrings K).map
      (fun p => (p.1, canonTextStart e K + offsetIn enc (stored e K) p.2))).Pairwise
      (fun a b => a.1 + 4 ≤ b.1 ∨ b.1 + 4 ≤ a.1) :=
    List.pairwise_map.mp (((patchCells_perm K _).pairwise_iff (fun h => h.symm)).mpr wf.disjoint)
  exact {
    hSize := by
      rw [hlen, ← hts]
      exact rdHdr 0 _ rfl (by rw [hts]; exact hsmall)
    hData := rdHdr 1 _ rfl (hbIn _ (Nat.le_refl _))
    hPtrs := by rw [← hnp] at hbC ⊢; exact rdHdr 2 _ rfl hbC
    hLbls := by rw [← hnl] at hbL ⊢; exact rdHdr 3 _ rfl hbL
    fits := by rw [hlen]; exact Nat.le_add_right _ _
    dataEq := by
      intro i hi hc
      rw [canonical_eq, List.getElem?_append_right (by rw [hH]; exact Nat.le_add_right _ _), hH,
        Nat.add_sub_cancel_left, List.getElem?_append_left (by rw [hD]; exact hi)]
      apply getElem?_patchWords_outside e _ _ _ hin
      intro w hw
      exact not_covered hc _ ((patchCells_perm K _).mem_iff.mp (List.mem_map_of_mem hw))
    ptrTable := by
      refine ⟨ptrTable K, ptrTable_perm K, fun i hi => rdPtr i _ (List.getElem?_eq_getElem hi) ?_⟩
      exact hbIn _ (Nat.le_of_add_right_le
        (wf.inside _ ((ptrTable_perm K).mem_iff.mp (List.getElem_mem hi))))
    ptrCells := by
      intro p hp
      rw [rdData p.1 (wf.inside _ (List.mem_append_left _ (List.mem_map_of_mem hp)))]
      apply wordAt_patchWords_mem e _ K.data p hin hdisj
      · exact List.mem_append_left _ (List.mem_mergeSort.mpr hp)
      · exact hbIn _ (wf.targets p hp)
    strCells := by
      intro p hp
      obtain ⟨b, hb⟩ := encS p hp
      have := hoff p.2 (hstoredS p hp)
      refine ⟨K.textStart + offsetIn enc (stored e K) p.2, b, ?_, Nat.le_add_right _ _, hb, ?_⟩
      · rw [rdData p.1 (wf.inside _ (List.mem_append_right _ (List.mem_map_of_mem hp))), ← hts]
        apply wordAt_patchWords_mem e _ K.data
          (p.1, canonTextStart e K + offsetIn enc (stored e K) p.2) hin hdisj
        · exact List.mem_append_right _ (List.mem_map.mpr ⟨p, List.mem_mergeSort.mpr hp, rfl⟩)
        · show canonTextStart e K + offsetIn enc (stored e K) p.2 < 2 ^ 32
          rw [hts]; exact hbT _ this
      · rw [← Nat.add_assoc]
        exact hstrAt p.2 b (hstoredS p hp) hb
    lblTable := by
      refine ⟨(labelEntries e K).map (fun p => (p.1, offsetIn enc (stored e K) p.2, p.2)),
        by rw [List.length_map, hnl], ?_, ?_⟩
      · intro i hi
        rw [List.length_map] at hi
        obtain ⟨g1, g2⟩ := flatMap_pair_getElem (fun p : Nat × Bytes => p.1)
          (fun p : Nat × Bytes => offsetIn enc (stored e K) p.2) (labelEntries e K) i hi
        have hmem : (labelEntries e K)[i] ∈ labelEntries e K := List.getElem_mem hi
        obtain ⟨q, hq, hx⟩ := List.mem_flatMap.mp hmem
        obtain ⟨n, hn, hx⟩ := List.mem_map.mp hx
        have hq' := (sortedLabels_perm e K).mem_iff.mp hq
        have haddr : (labelEntries e K)[i].1 ≤ K.data.length := by
          rw [← hx]; exact wf.labelAddrs q hq'
        have := hoff _ (hstoredL _ hmem)
        obtain ⟨b, hb⟩ : ∃ b, enc (labelEntries e K)[i].2 = some b := by
          rw [← hx]; exact encL q hq' n hn
        simp only [List.getElem_map]
        refine ⟨?_, ?_, b, hb, hstrAt _ b (hstoredL _ hmem) hb⟩
        · rw [show 8 * i = 4 * (2 * i) from Nat.mul_assoc 4 2 i]
          exact rdLbl _ _ g1 (hbIn _ haddr)
        · rw [Nat.add_assoc, show 8 * i + 4 = 4 * (2 * i + 1) from congrArg (· + 4) (Nat.mul_assoc 4 2 i)]
          exact rdLbl _ _ g2 (Nat.lt_of_le_of_lt (Nat.le_add_left _ _) (hbT _ this))
      · intro x
        rw [List.filter_map, List.map_map]
        have nd : ((sortedLabels e K).map (·.1)).Nodup :=
          (((sortedLabels_perm e K).map _).nodup_iff).mpr wf.labelKeys
        exact (entries_filter (sortedLabels e K) nd x).trans
          (congrArg (·.getD []) (UMap.get_perm nd (sortedLabels_perm e K) x)) }

end Mila.Ser
