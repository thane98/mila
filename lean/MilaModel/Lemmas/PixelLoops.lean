/-
Loops of the pixel decoders.  The invariant rule for `forRange`; `Fills` and `forRange_fills`: a loop
whose step `k` sets the cells `W k` of a buffer to their final values sets their union, stated so
that nested loops are handled level by level; what a one-byte and a four-byte write do to a
row-major map; row-major index arithmetic.
-/
import MilaModel.Model.Etc1

namespace Mila

theorem forRangeFrom_inv {σ : Type} (body : Nat → σ → Res σ) (I : Nat → σ → Prop) :
    ∀ n i s, I i s →
      (∀ j s, i ≤ j → j < i + n → I j s → ∃ s', body j s = .ok s' ∧ I (j + 1) s') →
      ∃ s', forRangeFrom body n i s = .ok s' ∧ I (i + n) s' := by
  intro n
  induction n with
  | zero => intro i s h _; exact ⟨s, rfl, by simpa using h⟩
  | succ n ih =>
    intro i s h step
    obtain ⟨s1, hb, h1⟩ := step i s (Nat.le_refl _) (by omega) h
    obtain ⟨s2, hr, h2⟩ := ih (i + 1) s1 h1 (fun j s hij hj hI => step j s (by omega) (by omega) hI)
    refine ⟨s2, ?_, ?_⟩
    · simp [forRangeFrom, hb, hr]
    · have : i + 1 + n = i + (n + 1) := by omega
      rw [← this]; exact h2

theorem forRange_inv {σ : Type} (body : Nat → σ → Res σ) (I : Nat → σ → Prop) (n : Nat) (s : σ)
    (h0 : I 0 s) (step : ∀ j s, j < n → I j s → ∃ s', body j s = .ok s' ∧ I (j + 1) s') :
    ∃ s', forRange n body s = .ok s' ∧ I n s' := by
  have := forRangeFrom_inv body I n 0 s h0 (fun j s _ hj hI => step j s (by omega) hI)
  simpa [forRange] using this

/-- `s'` is `s` with the cells in `A` set to their final values `v` and the others untouched; cells
are read by `get`, and only the cells in `D` are spoken of. -/
def Fills {σ ι α : Type} (get : σ → ι → α) (v : ι → α) (D A : ι → Prop) (s s' : σ) : Prop :=
  ∀ i, D i → (A i → get s' i = v i) ∧ (¬ A i → get s' i = get s i)

/-- A loop whose step `k` fills the cells `W k` fills their union.  The conclusion has the shape of
the hypothesis on a step, so that nested loops are handled level by level. -/
theorem forRange_fills {σ ι α : Type} (get : σ → ι → α) (v : ι → α) (D : ι → Prop)
    (body : Nat → σ → Res σ) (P : Nat → σ → Prop) (W : Nat → ι → Prop) (n : Nat)
    (step : ∀ k s, k < n → P k s → ∃ s', body k s = .ok s' ∧ P (k + 1) s' ∧ Fills get v D (W k) s s')
    (s : σ) (h0 : P 0 s) :
    ∃ s', forRange n body s = .ok s' ∧ P n s' ∧ Fills get v D (fun i => ∃ k, k < n ∧ W k i) s s' := by
  refine forRange_inv body (fun k s' => P k s' ∧ Fills get v D (fun i => ∃ j, j < k ∧ W j i) s s') n s
    ⟨h0, fun i _ => ⟨fun ⟨_, h, _⟩ => absurd h (Nat.not_lt_zero _), fun _ => rfl⟩⟩ ?_
  intro k s1 hk ⟨hP, hF⟩
  obtain ⟨s2, hb, hP2, hstep⟩ := step k s1 hk hP
  refine ⟨s2, hb, hP2, fun i hD => ?_⟩
  by_cases hw : W k i
  · exact ⟨fun _ => (hstep i hD).1 hw, fun hn => absurd ⟨k, Nat.lt_succ_self k, hw⟩ hn⟩
  · rw [(hstep i hD).2 hw]
    exact ⟨fun ⟨j, hj, hwj⟩ =>
        (hF i hD).1 ⟨j, Nat.lt_of_le_of_ne (Nat.le_of_lt_succ hj) (fun e => hw (e ▸ hwj)), hwj⟩,
      fun hn => (hF i hD).2 (fun ⟨j, hj, hwj⟩ => hn ⟨j, Nat.lt_succ_of_lt hj, hwj⟩)⟩

theorem getD_setIfInBounds (a : Buf) (i j : Nat) (v d : UInt8) :
    (a.setIfInBounds i v).getD j d = if i = j ∧ i < a.size then v else a.getD j d := by
  simp only [Array.getD_eq_getD_getElem?, Array.getElem?_setIfInBounds]
  by_cases h : i = j
  · subst h
    by_cases h2 : i < a.size
    · simp [h2]
    · simp [h2]
  · simp [h]

theorem mulN_ok {bits : Nat} (p : Profile) {a b : Nat} (h : a * b < 2 ^ bits) :
    mulN bits p a b = .ok (a * b) := by
  simp [mulN, h]

namespace Pixel

/-- A colour channel as the byte that is stored. -/
def chanByte (c : Rgba) (j : Nat) : UInt8 := UInt8.ofNat (c.chan j)

theorem idx_lt {w h x y : Nat} (hx : x < w) (hy : y < h) : y * w + x < h * w := by
  have : (y + 1) * w ≤ h * w := Nat.mul_le_mul_right w hy
  rw [Nat.succ_mul] at this
  omega

theorem area_split {a b m n : Nat} (ha : a % m = 0) (hb : b % n = 0) :
    a * b = a / m * (b / n) * (m * n) := by
  have h := Nat.mul_mul_mul_comm (a / m) m (b / n) n
  rw [Nat.div_mul_cancel (Nat.dvd_of_mod_eq_zero ha), Nat.div_mul_cancel (Nat.dvd_of_mod_eq_zero hb)] at h
  exact h

theorem idx_inj {w x y x' y' : Nat} (hx : x < w) (hx' : x' < w) (h : y * w + x = y' * w + x') :
    x = x' ∧ y = y' := by
  have h1 : (y * w + x) % w = x := by rw [Nat.mul_comm, Nat.mul_add_mod]; exact Nat.mod_eq_of_lt hx
  have h2 : (y' * w + x') % w = x' := by rw [Nat.mul_comm, Nat.mul_add_mod]; exact Nat.mod_eq_of_lt hx'
  have hxx : x = x' := by rw [← h1, ← h2, h]
  subst hxx
  have hw : 0 < w := by omega
  have : y * w = y' * w := by omega
  exact ⟨rfl, Nat.eq_of_mul_eq_mul_right hw this⟩

theorem idx_surj {w h j : Nat} (hw : 0 < w) (hj : j < h * w) : ∃ x y, x < w ∧ y < h ∧ j = y * w + x :=
  ⟨j % w, j / w, Nat.mod_lt j hw, (Nat.div_lt_iff_lt_mul hw).2 hj, (Nat.div_add_mod' j w).symm⟩

/-- Cell `(i.1, i.2)` of a row-major byte map of width `w`. -/
def cellByte (w : Nat) (s : Buf) (i : Nat × Nat) : UInt8 := s.getD (i.2 * w + i.1) 0

/-- Writing cell `(x, y)` of a row-major byte map of width `w` fills the cells `A` when `A` describes
that cell and the byte written is the final one. -/
theorem set_fills (v : Nat × Nat → UInt8) (A : Nat × Nat → Prop) (w x y : Nat) (b : UInt8) (s : Buf)
    (hx : x < w) (hs : y * w + x < s.size)
    (hA : ∀ i, i.1 < w → (A i ↔ i.1 = x ∧ i.2 = y)) (hv : ∀ i, A i → v i = b) :
    Fills (cellByte w) v (fun i => i.1 < w) A s (s.setIfInBounds (y * w + x) b) := by
  intro i hi
  unfold cellByte
  rw [getD_setIfInBounds]
  constructor
  · intro h
    obtain ⟨h1, h2⟩ := (hA i hi).1 h
    rw [if_pos ⟨by rw [h1, h2], hs⟩, hv i h]
  · intro h
    rw [if_neg (fun e => h ((hA i hi).2 (let ⟨a, b⟩ := idx_inj hx hi e.1; ⟨a.symm, b.symm⟩)))]

/-- The four-byte pixel write at `o` (common to `write4` and `Etc1.put4`).  Irreducible, or the
unifier, meeting `(pos, set4 bmp o c).2 =?= set4 bmp o c`, unfolds it down to `UInt8.ofNat`. -/
@[irreducible] def set4 (bmp : Buf) (o : Nat) (c : Rgba) : Buf :=
  (((bmp.setIfInBounds o (UInt8.ofNat c.r)).setIfInBounds (o + 1) (UInt8.ofNat c.g)).setIfInBounds
    (o + 2) (UInt8.ofNat c.b)).setIfInBounds (o + 3) (UInt8.ofNat c.a)

theorem set4_size (bmp : Buf) (o : Nat) (c : Rgba) : (set4 bmp o c).size = bmp.size := by
  simp only [set4, Array.size_setIfInBounds]

theorem set4_getD (bmp : Buf) (o : Nat) (c : Rgba) (h : o + 4 ≤ bmp.size) (i : Nat) :
    (set4 bmp o c).getD i 0 = if o ≤ i ∧ i < o + 4 then chanByte c (i - o) else bmp.getD i 0 := by
  simp only [set4, getD_setIfInBounds, Array.size_setIfInBounds]
  by_cases h0 : o = i
  · subst h0; simp [chanByte, Rgba.chan]; omega
  by_cases h1 : o + 1 = i
  · subst h1; simp [chanByte, Rgba.chan]; omega
  by_cases h2 : o + 2 = i
  · subst h2; simp [chanByte, Rgba.chan]; omega
  by_cases h3 : o + 3 = i
  · subst h3; simp [chanByte, Rgba.chan]; omega
  · have : ¬ (o ≤ i ∧ i < o + 4) := by omega
    simp [h0, h1, h2, h3, this]

/-- Byte `i.2.2` of pixel `(i.1, i.2.1)` of an RGBA bitmap `w` pixels wide: the cells of the
decoders' output. -/
def pxByte (w : Nat) (bmp : Buf) (i : Nat × Nat × Nat) : UInt8 := bmp.getD ((i.2.1 * w + i.1) * 4 + i.2.2) 0

/-- The cells of a bitmap `w` pixels wide whose addresses tell the pixels apart. -/
def InRow (w : Nat) (i : Nat × Nat × Nat) : Prop := i.1 < w ∧ i.2.2 < 4

/-- Writing pixel `(x, y)` fills the cells `A` when `A` describes that pixel and the colour written
is the final one. -/
theorem set4_fills (v : Nat × Nat × Nat → UInt8) (A : Nat × Nat × Nat → Prop) (w x y : Nat) (c : Rgba)
    (bmp : Buf) (hx : x < w) (hs : (y * w + x) * 4 + 4 ≤ bmp.size)
    (hA : ∀ i, A i ↔ i.1 = x ∧ i.2.1 = y) (hv : ∀ i, A i → v i = chanByte c i.2.2) :
    Fills (pxByte w) v (InRow w) A bmp (set4 bmp ((y * w + x) * 4) c) := by
  intro i ⟨hX, hc⟩
  unfold pxByte
  rw [set4_getD _ _ _ hs]
  constructor
  · intro h
    obtain ⟨h1, h2⟩ := (hA i).1 h
    rw [h1, h2, if_pos (by omega), Nat.add_sub_cancel_left, hv i h]
  · intro h
    have hne : i.2.1 * w + i.1 ≠ y * w + x := fun e => h ((hA i).2 (idx_inj hX hx e))
    rw [if_neg (by omega)]

/-- State of a decoding loop before item number `k`: the cursor stands at item `k` of `b` bytes
each, the bitmap has its full size. -/
def At (w h b k : Nat) (s : Nat × Buf) : Prop := s.1 = k * b ∧ s.2.size = 4 * (h * w)

theorem At.room {w h b k n : Nat} {s : Nat × Buf} (hs : At w h b k s) (hk : k < n) : s.1 + b ≤ n * b := by
  rw [hs.1, ← Nat.succ_mul]
  exact Nat.mul_le_mul_right b hk

theorem At.next {w h b k : Nat} {s : Nat × Buf} (hs : At w h b k s) {bmp : Buf} (hb : bmp.size = s.2.size) :
    At w h b (k + 1) (s.1 + b, bmp) :=
  ⟨by rw [hs.1, ← Nat.succ_mul], hb.trans hs.2⟩

end Pixel
end Mila
