/- The state-changing calls of `LayeredFilesystem` (`write`, `create_dir`, the archive writers):
each leaves the state alone or replaces the top layer by what the layer-level `write` /
`create_dir` makes of it at the localised path (`Fs.Next`).  The frame, the tree invariant and
"other files stay" are read off that one description, for one call and, through `step_next`, for
the histories of C12 / C13, whose operations are defined first. -/
import MilaModel.Lemmas.FsClosed

namespace Mila.Props
open Mila.LayeredFs

namespace C12

/-- The stored form of a payload: compressed with the game's format iff the (unlocalised) path has
the compressed suffix. -/
def encoded (E : Env) (fs : Fs) (path b : Bytes) : Res Bytes :=
  if isCompressed fs.cfg.lz path then reclass .Decoding ((E.lz fs.cfg.lz).compress b) else .ok b

/-- The state-changing operations of the API. -/
inductive Op (E : Env)
  | write (p b : Bytes) (loc : Bool)
  | createDir (p : Bytes) (loc : Bool)
  | writeArchive (p : Bytes) (a : E.Bin) (loc : Bool)
  | writeTextArchive (p : Bytes) (t : E.Txt) (loc : Bool)

def step (E : Env) (fs : Fs) : Op E → Fs
  | .write p b loc => (fs.write E p b loc).1
  | .createDir p loc => (fs.createDir p loc).1
  | .writeArchive p a loc => (fs.writeArchive E p a loc).1
  | .writeTextArchive p t loc => (fs.writeTextArchive E p t loc).1

def run (E : Env) (fs : Fs) (ops : List (Op E)) : Fs := ops.foldl (step E) fs

/-- Where an operation looks in the top layer (components of its localised path). -/
def Op.target (E : Env) (fs : Fs) : Op E → Option Comps
  | .write p _ loc => (fs.actualPath p loc).toOption.map (fun a => (parsePath a).comps)
  | .createDir p loc => (fs.actualPath p loc).toOption.map (fun a => (parsePath a).comps)
  | .writeArchive p _ loc => (fs.actualPath p loc).toOption.map (fun a => (parsePath a).comps)
  | .writeTextArchive p _ loc => (fs.actualPath p loc).toOption.map (fun a => (parsePath a).comps)

end C12

namespace C13

/-- The operation's path and localisation flag. -/
def opPath {E : Env} : C12.Op E → Bytes × Bool
  | .write p _ loc => (p, loc)
  | .createDir p loc => (p, loc)
  | .writeArchive p _ loc => (p, loc)
  | .writeTextArchive p _ loc => (p, loc)

end C13
end Mila.Props

namespace Mila.LayeredFs
open Mila.Props.C12 (encoded Op step run)
open Mila.Props.C13 (opPath)

theorem reclass_eq_ok {α : Type} (e : Err) (r : Res α) (a : α) : reclass e r = .ok a ↔ r = .ok a := by
  cases r <;> simp [reclass]

namespace Layer

/-- `t'` is what a `write` or `create_dir` at path `a`, accepted or rejected, makes of `t`. -/
def Updated (t : Layer) (a : Bytes) (t' : Layer) : Prop :=
  (∃ c, t' = (t.write a c).1) ∨ t' = (t.createDir a).1

variable {t t' : Layer} {a : Bytes}

theorem Updated.get_file (h : t.Updated a t') {x : Comps} {n : Bytes}
    (hx : t.get x = some (.file n)) (hne : x ≠ (parsePath a).comps) : t'.get x = some (.file n) := by
  rcases h with ⟨c, rfl⟩ | rfl
  · rcases write_get t a c x with ⟨_, h2, _⟩ | h2 | ⟨h1, _⟩
    · exact absurd h2 hne
    · rw [h2, hx]
    · rw [hx] at h1; cases h1
  · rcases mkdirAll_get t (parsePath a).comps x with h2 | ⟨h1, _⟩
    · exact h2.trans hx
    · rw [hx] at h1; cases h1

theorem Updated.closed (h : t.Updated a t') (hc : t.Closed) : t'.Closed := by
  rcases h with ⟨c, rfl⟩ | rfl
  · exact closed_write hc a c
  · exact closed_createDir hc a

theorem Updated.mem (h : t.Updated a t') {e : Comps × Node} (he : e ∈ t') :
    e ∈ t ∨ (e.1 ≠ [] ∧ e.1 <+: (parsePath a).comps) := by
  rcases h with ⟨c, rfl⟩ | rfl
  · exact mem_write t a c e he
  · exact mem_createDir t a e he

end Layer

namespace Fs

theorem actualPath_congr {s fs : Fs} (h1 : s.cfg = fs.cfg) (h2 : s.lang = fs.lang) (p : Bytes) (loc : Bool) :
    s.actualPath p loc = fs.actualPath p loc := by
  simp only [actualPath, h1, h2]

/-- Where a call on `p` looks in the top layer: the components of its localised path. -/
def target (fs : Fs) (p : Bytes) (loc : Bool) : Option Comps :=
  (fs.actualPath p loc).toOption.map (fun a => (parsePath a).comps)

theorem target_of_ok {fs : Fs} {p a : Bytes} {loc : Bool} (h : fs.actualPath p loc = .ok a) :
    fs.target p loc = some (parsePath a).comps := by
  simp [target, h, Res.toOption]

theorem target_congr {s fs : Fs} (h1 : s.cfg = fs.cfg) (h2 : s.lang = fs.lang) (p : Bytes) (loc : Bool) :
    s.target p loc = fs.target p loc := by
  rw [target, actualPath_congr h1 h2, target]

theorem actualPath_false (fs : Fs) (p : Bytes) : fs.actualPath p false = .ok p := rfl

theorem setTop_layers (fs : Fs) (top : Layer) : (fs.setTop top).layers = fs.layers.dropLast ++ [top] := rfl

theorem setTop_getLast (fs : Fs) (t : Layer) : (fs.setTop t).layers.getLast? = some t := by
  simp [setTop_layers]

theorem setTop_frame (fs : Fs) (t : Layer) {top : Layer} (h : fs.layers.getLast? = some top) :
    (fs.setTop t).layers.dropLast = fs.layers.dropLast ∧
    (fs.setTop t).layers.length = fs.layers.length ∧
    (fs.setTop t).cfg = fs.cfg ∧ (fs.setTop t).lang = fs.lang := by
  obtain ⟨ys, hys⟩ := List.getLast?_eq_some_iff.mp h
  simp [setTop, hys]

theorem readAt_top_file (E : Env) (fs : Fs) (top : Layer) (a c : Bytes) (z : Bool)
    (htop : fs.layers.getLast? = some top) (hs : top.stat a = some (.file c)) :
    fs.readAt E a z = if z then reclass .Decoding ((E.lz fs.cfg.lz).decompress c) else .ok c := by
  obtain ⟨ys, hys⟩ := List.getLast?_eq_some_iff.mp htop
  have hfe : top.fileExists a = true := by simp [Layer.fileExists, hs]
  unfold Fs.readAt
  simp only [hys, List.reverse_append, List.reverse_cons, List.reverse_nil, List.nil_append,
    List.singleton_append, List.find?_cons, hfe]
  simp [Layer.read, hs]

theorem writeAt_eq (fs : Fs) (a c : Bytes) {top : Layer} (htop : fs.layers.getLast? = some top) :
    (fs.writeAt a c).1 = fs.setTop (top.write a c).1 ∧
    ((fs.writeAt a c).2 = .ok () ↔ (top.write a c).2 = .ok ()) := by
  unfold writeAt
  simp only [htop]
  generalize top.write a c = r
  rcases r with ⟨t, ⟨⟨⟩⟩ | e | _⟩ <;> simp

/-- A write either fails before touching anything, or is the layer-level write of the encoded
payload `c` at the localised path `a` in the top layer, and succeeds iff that does. -/
theorem write_cases (E : Env) (fs : Fs) (p b : Bytes) (loc : Bool) :
    ((fs.write E p b loc).1 = fs ∧ (fs.write E p b loc).2 ≠ .ok ()) ∨
    ∃ a c top, fs.actualPath p loc = .ok a ∧ encoded E fs p b = .ok c ∧ fs.layers.getLast? = some top ∧
      (fs.write E p b loc).1 = fs.setTop (top.write a c).1 ∧
      ((fs.write E p b loc).2 = .ok () ↔ (top.write a c).2 = .ok ()) := by
  unfold write
  rw [← encoded]
  cases ha : fs.actualPath p loc with
  | err e => exact Or.inl ⟨rfl, nofun⟩
  | panic => exact Or.inl ⟨rfl, nofun⟩
  | ok a =>
    cases hc : encoded E fs p b with
    | err e => exact Or.inl ⟨rfl, nofun⟩
    | panic => exact Or.inl ⟨rfl, nofun⟩
    | ok c =>
      cases htop : fs.layers.getLast? with
      | none => exact Or.inl (by simp [writeAt, htop])
      | some top => exact Or.inr ⟨a, c, top, rfl, rfl, rfl, writeAt_eq fs a c htop⟩

theorem write_ok_cases (E : Env) (fs fs' : Fs) (p b : Bytes) (loc : Bool)
    (h : fs.write E p b loc = (fs', .ok ())) :
    ∃ a c top, fs.actualPath p loc = .ok a ∧ encoded E fs p b = .ok c ∧
      fs.layers.getLast? = some top ∧ (top.write a c).2 = .ok () ∧ fs' = fs.setTop (top.write a c).1 := by
  rcases write_cases E fs p b loc with ⟨_, hno⟩ | ⟨a, c, top, ha, hc, htop, hst, hok⟩
  · rw [h] at hno; exact absurd rfl hno
  · rw [h] at hst hok
    exact ⟨a, c, top, ha, hc, htop, hok.mp rfl, hst⟩

/-- A localized `read` / `write` is the unlocalised call on the localised path `a` whenever `p` and
`a` agree on the compressed suffix: the suffix test is on the unlocalised name (`:274`, `:415`). -/
theorem localized_eq (E : Env) (fs : Fs) {p a : Bytes} (h : fs.actualPath p true = .ok a)
    (hz : isCompressed fs.cfg.lz p = isCompressed fs.cfg.lz a) :
    fs.read E p true = fs.read E a false ∧ ∀ b, fs.write E p b true = fs.write E a b false := by
  have hF : fs.actualPath a false = .ok a := rfl
  exact ⟨by simp only [read, h, hF, hz], fun b => by simp only [write, h, hF, hz]⟩

/-- `fs'` is `fs`, or `fs` with its top layer updated at the localised `p`. -/
def Next (fs : Fs) (p : Bytes) (loc : Bool) (fs' : Fs) : Prop :=
  fs' = fs ∨ ∃ a top t', fs.actualPath p loc = .ok a ∧ fs.layers.getLast? = some top ∧
    top.Updated a t' ∧ fs' = fs.setTop t'

theorem write_next (E : Env) (fs : Fs) (p b : Bytes) (loc : Bool) : fs.Next p loc (fs.write E p b loc).1 := by
  rcases write_cases E fs p b loc with ⟨h, _⟩ | ⟨a, c, top, ha, _, htop, h, _⟩
  · exact Or.inl h
  · exact Or.inr ⟨a, top, _, ha, htop, Or.inl ⟨c, rfl⟩, h⟩

theorem serThenWrite_next (E : Env) (fs : Fs) (p : Bytes) (ser : Res Bytes) (loc : Bool) :
    fs.Next p loc (fs.serThenWrite E p ser loc).1 := by
  unfold serThenWrite
  cases reclass Err.Invalid ser with
  | ok bytes => exact write_next E fs p bytes loc
  | err e => exact Or.inl rfl
  | panic => exact Or.inl rfl

theorem createDir_eq (fs : Fs) {p a : Bytes} {loc : Bool} {top : Layer}
    (ha : fs.actualPath p loc = .ok a) (htop : fs.layers.getLast? = some top) :
    (fs.createDir p loc).1 = fs.setTop (top.createDir a).1 ∧
    ((fs.createDir p loc).2 = .ok () ↔ (top.createDir a).2 = .ok ()) := by
  unfold createDir
  simp only [ha, htop]
  generalize top.createDir a = r
  rcases r with ⟨t, ⟨⟨⟩⟩ | e | _⟩ <;> simp

theorem createDir_next (fs : Fs) (p : Bytes) (loc : Bool) : fs.Next p loc (fs.createDir p loc).1 := by
  cases ha : fs.actualPath p loc with
  | ok a =>
    cases htop : fs.layers.getLast? with
    | none => exact Or.inl (by simp [createDir, ha, htop])
    | some top => exact Or.inr ⟨a, top, _, ha, htop, Or.inr rfl, (createDir_eq fs ha htop).1⟩
  | err e => exact Or.inl (by simp [createDir, ha])
  | panic => exact Or.inl (by simp [createDir, ha])

variable {fs fs' : Fs} {p : Bytes} {loc : Bool}

theorem Next.frame (h : fs.Next p loc fs') :
    fs'.layers.dropLast = fs.layers.dropLast ∧ fs'.layers.length = fs.layers.length ∧
    fs'.cfg = fs.cfg ∧ fs'.lang = fs.lang := by
  rcases h with rfl | ⟨_, _, t', _, htop, _, rfl⟩
  · exact ⟨rfl, rfl, rfl, rfl⟩
  · exact setTop_frame fs t' htop

theorem Next.forall_layers {P : Layer → Prop} (h : fs.Next p loc fs') (hwf : ∀ l ∈ fs.layers, P l)
    (hP : ∀ a top t', fs.actualPath p loc = .ok a → P top → top.Updated a t' → P t') :
    ∀ l ∈ fs'.layers, P l := by
  rcases h with rfl | ⟨a, top, t', ha, htop, hu, rfl⟩
  · exact hwf
  · intro l hl
    rcases List.mem_append.mp hl with h | h
    · exact hwf l (List.dropLast_subset _ h)
    · rw [List.mem_singleton.mp h]
      exact hP a top t' ha (hwf top (List.mem_of_getLast? htop)) hu

theorem Next.closed (h : fs.Next p loc fs') (hwf : ∀ l ∈ fs.layers, l.Closed) : ∀ l ∈ fs'.layers, l.Closed :=
  h.forall_layers hwf fun _ _ _ _ hc hu => hu.closed hc

theorem Next.keeps (h : fs.Next p loc fs') {top : Layer} {x : Comps} {n : Bytes}
    (htop : fs.layers.getLast? = some top) (hx : top.get x = some (.file n))
    (hne : fs.target p loc ≠ some x) :
    ∃ top', fs'.layers.getLast? = some top' ∧ top'.get x = some (.file n) := by
  rcases h with rfl | ⟨a, top0, t', ha, htop0, hu, rfl⟩
  · exact ⟨top, htop, hx⟩
  · cases htop.symm.trans htop0
    exact ⟨t', setTop_getLast fs t', hu.get_file hx fun e => hne (e ▸ target_of_ok ha)⟩

end Fs

theorem opTarget_eq (E : Env) (fs : Fs) (op : Op E) : op.target E fs = fs.target (opPath op).1 (opPath op).2 := by
  cases op <;> rfl

theorem opTarget_congr (E : Env) {s fs : Fs} (h1 : s.cfg = fs.cfg) (h2 : s.lang = fs.lang) (op : Op E) :
    op.target E s = op.target E fs := by
  rw [opTarget_eq, opTarget_eq, Fs.target_congr h1 h2]

/-- Every operation is one call on its path and flag. -/
theorem step_next (E : Env) (fs : Fs) (op : Op E) : fs.Next (opPath op).1 (opPath op).2 (step E fs op) := by
  cases op with
  | write p b loc => exact Fs.write_next E fs p b loc
  | createDir p loc => exact Fs.createDir_next fs p loc
  | writeArchive p a loc => exact Fs.serThenWrite_next E fs p _ loc
  | writeTextArchive p t loc => exact Fs.serThenWrite_next E fs p _ loc

theorem run_keeps (E : Env) {fs : Fs} {x : Comps} {n : Bytes} (ops : List (Op E))
    (hops : ∀ op ∈ ops, op.target E fs ≠ some x) {t : Layer}
    (ht : fs.layers.getLast? = some t) (hx : t.get x = some (.file n)) :
    ∃ t', (run E fs ops).layers.getLast? = some t' ∧ t'.get x = some (.file n) := by
  induction ops generalizing fs t with
  | nil => exact ⟨t, ht, hx⟩
  | cons op rest ih =>
    have hn := step_next E fs op
    obtain ⟨_, _, hcfg, hlang⟩ := hn.frame
    obtain ⟨t', ht', hx'⟩ := hn.keeps ht hx (opTarget_eq E fs op ▸ hops op List.mem_cons_self)
    refine ih (fun o ho => ?_) ht' hx'
    rw [opTarget_congr E hcfg hlang]
    exact hops o (List.mem_cons_of_mem _ ho)

end Mila.LayeredFs
