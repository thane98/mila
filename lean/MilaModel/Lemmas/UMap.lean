/-
`UMap` (a hash map as an association list) as a finite map: lookup after `insert` and `remove`;
with distinct keys membership is lookup and lookups do not depend on the order; the operations
keep the keys distinct; with distinct keys `iter().map(…).collect()` loses nothing.
-/
import MilaModel.Model.UMap

namespace Mila
namespace UMap
variable {κ ν : Type} [DecidableEq κ]

theorem get_cons (p : κ × ν) (m : UMap κ ν) (k : κ) :
    get (p :: m) k = if p.1 = k then some p.2 else get m k := by
  unfold get
  rw [List.find?_cons]
  by_cases h : p.1 = k <;> simp [h]

theorem get_eq_none_iff (m : UMap κ ν) (k : κ) : get m k = none ↔ ∀ p ∈ m, p.1 ≠ k := by
  simp [get]

theorem get_eq_none_of_not_any {m : UMap κ ν} {k : κ} (h : m.any (fun p => p.1 = k) = false) :
    get m k = none :=
  (get_eq_none_iff m k).2 fun p hp => by simpa using List.any_eq_false.1 h p hp

theorem mem_of_get {m : UMap κ ν} {k : κ} {v : ν} (h : get m k = some v) : (k, v) ∈ m := by
  unfold get at h
  obtain ⟨p, hf, rfl⟩ := Option.map_eq_some_iff.mp h
  have hk : p.1 = k := by simpa using List.find?_some hf
  exact hk ▸ List.mem_of_find?_eq_some hf

theorem get_ne_none_of_mem {m : UMap κ ν} {k : κ} {v : ν} (h : (k, v) ∈ m) : get m k ≠ none :=
  fun e => (get_eq_none_iff m k).1 e _ h rfl

theorem mem_iff_get {m : UMap κ ν} (nd : (m.map (·.1)).Nodup) (p : κ × ν) :
    p ∈ m ↔ get m p.1 = some p.2 := by
  induction m with
  | nil => simp [get]
  | cons q qs ih =>
    rw [List.map_cons, List.nodup_cons] at nd
    rw [List.mem_cons, get_cons, ih nd.2]
    by_cases hq : q.1 = p.1
    · have : get qs p.1 = none :=
        (get_eq_none_iff qs p.1).mpr fun r hr e => nd.1 (hq ▸ e ▸ List.mem_map_of_mem hr)
      simp [hq, this, Prod.ext_iff, eq_comm]
    · have : p ≠ q := fun h => hq (h ▸ rfl)
      simp [hq, this]

theorem eq_of_key_eq {l : UMap κ ν} (nd : (l.map (·.1)).Nodup) {a b : κ × ν}
    (ha : a ∈ l) (hb : b ∈ l) (hk : a.1 = b.1) : a = b := by
  have h := (mem_iff_get nd a).mp ha
  rw [hk, (mem_iff_get nd b).mp hb] at h
  exact Prod.ext hk (Option.some.inj h).symm

theorem get_perm {m m' : UMap κ ν} (nd : (m.map (·.1)).Nodup) (h : m.Perm m') (k : κ) :
    get m k = get m' k := by
  have nd' := ((h.map _).nodup_iff).mp nd
  apply Option.ext
  intro v
  rw [← mem_iff_get nd (k, v), ← mem_iff_get nd' (k, v)]
  exact h.mem_iff

theorem perm_of_get_eq {m m' : UMap κ ν} (nd : (m.map (·.1)).Nodup) (nd' : (m'.map (·.1)).Nodup)
    (h : ∀ k, get m k = get m' k) : m.Perm m' := by
  rw [List.perm_ext_iff_of_nodup (nd.of_map _ fun _ _ h e => h (congrArg _ e))
    (nd'.of_map _ fun _ _ h e => h (congrArg _ e))]
  intro p
  rw [mem_iff_get nd, mem_iff_get nd', h]

theorem get_replace (k : κ) (v : ν) (k' : κ) : ∀ (m : UMap κ ν),
    get (m.map (fun p => if p.1 = k then (k, v) else p)) k' =
      if k' = k then (if m.any (fun p => p.1 = k) then some v else none) else get m k' := by
  intro m
  induction m with
  | nil => simp [get]
  | cons p ps ih =>
    unfold get at ih ⊢
    simp only [List.map_cons, List.find?_cons, List.any_cons]
    by_cases hpk : p.1 = k
    · by_cases hk : k' = k
      · subst hk; simp [hpk]
      · have : ¬ k = k' := fun e => hk e.symm
        simp only [hpk, if_true, this, decide_false, hk, if_false]
        rw [ih]; simp [hk]
    · by_cases hpk' : p.1 = k'
      · have : ¬ k' = k := fun e => hpk (hpk'.trans e)
        simp [hpk', this]
      · simp only [hpk, if_false, hpk', decide_false, Bool.false_or]
        exact ih

theorem get_append_singleton (m : UMap κ ν) (k : κ) (v : ν) (k' : κ) :
    get (m ++ [(k, v)]) k' = (get m k').or (if k' = k then some v else none) := by
  unfold get
  rw [List.find?_append]
  cases h : m.find? (fun p => p.1 = k') with
  | some p => simp
  | none =>
    by_cases hk : k = k'
    · subst hk; simp
    · have : ¬ k' = k := fun e => hk e.symm
      simp [hk, this]

theorem get_insert (m : UMap κ ν) (k : κ) (v : ν) (k' : κ) :
    get (insert m k v) k' = if k' = k then some v else get m k' := by
  unfold insert
  cases h : m.any (fun p => p.1 = k) with
  | true =>
    simp only [if_true]
    rw [get_replace, h]; simp
  | false =>
    simp only [Bool.false_eq_true, if_false]
    rw [get_append_singleton]
    by_cases hk : k' = k
    · subst hk; rw [get_eq_none_of_not_any h]; simp
    · simp [hk]

theorem get_remove (m : UMap κ ν) (k k' : κ) :
    get (remove m k) k' = if k' = k then none else get m k' := by
  unfold remove
  induction m with
  | nil => simp [get]
  | cons p m ih =>
    by_cases hp : p.1 = k
    · simp only [List.filter_cons, hp, not_true_eq_false, decide_false, Bool.false_eq_true, if_false, ih, get_cons]
      by_cases hk : k' = k
      · simp [hk]
      · have : ¬ k = k' := fun e => hk e.symm
        simp [hk, this]
    · simp only [List.filter_cons, hp, not_false_eq_true, decide_true, if_true, get_cons, ih]
      by_cases hk : k' = k
      · have : ¬ p.1 = k' := fun e => hp (e.trans hk)
        simp [hk]
        intro e; exact absurd e hp
      · simp [hk]

theorem mem_insert (m : UMap κ ν) (k : κ) (v : ν) (q : κ × ν)
    (h : q ∈ insert m k v) : q = (k, v) ∨ q ∈ m := by
  unfold insert at h
  split at h
  · obtain ⟨p, hp, rfl⟩ := List.mem_map.mp h
    by_cases hk : p.1 = k
    · simp [hk]
    · simp [hk, hp]
  · rcases List.mem_append.mp h with h | h
    · exact Or.inr h
    · exact Or.inl (by simpa using h)

theorem forall_mem_insert {m : UMap κ ν} {k : κ} {v : ν} {P : κ × ν → Prop} (hk : P (k, v))
    (hm : ∀ q ∈ m, P q) : ∀ q ∈ insert m k v, P q :=
  fun q hq => (mem_insert m k v q hq).elim (fun e => e ▸ hk) (hm q)

omit [DecidableEq κ] in
theorem forall_keys (m : UMap κ ν) (Q : κ → Prop) : (∀ k ∈ keys m, Q k) ↔ ∀ p ∈ m, Q p.1 :=
  List.forall_mem_map

theorem any_key_iff (m : UMap κ ν) (k : κ) : m.any (fun p => p.1 = k) = true ↔ k ∈ keys m := by
  simp [keys, List.any_eq_true]

theorem insert_of_not_mem (m : UMap κ ν) (k : κ) (v : ν) (h : k ∉ keys m) : insert m k v = m ++ [(k, v)] := by
  unfold insert
  rw [if_neg]
  rw [any_key_iff]; exact h

theorem keys_insert (m : UMap κ ν) (k : κ) (v : ν) :
    keys (insert m k v) = if k ∈ keys m then keys m else keys m ++ [k] := by
  unfold insert
  by_cases hk : k ∈ keys m
  · rw [if_pos ((any_key_iff m k).mpr hk), if_pos hk]
    unfold keys
    rw [List.map_map]
    apply List.map_congr_left
    intro p _
    by_cases hp : p.1 = k <;> simp [hp]
  · rw [if_neg (by rw [any_key_iff]; exact hk), if_neg hk]
    simp [keys]

theorem keys_insert_nodup (m : UMap κ ν) (k : κ) (v : ν) (h : (keys m).Nodup) :
    (keys (insert m k v)).Nodup := by
  rw [keys_insert]
  split
  · exact h
  · rename_i hk
    exact List.nodup_append.mpr ⟨h, by simp, fun a ha b hb hab => hk (by simp_all)⟩

theorem mem_keys_insert (m : UMap κ ν) (k k' : κ) (v : ν) :
    k' ∈ keys (insert m k v) ↔ k' = k ∨ k' ∈ keys m := by
  rw [keys_insert]
  split
  · rename_i hk
    exact ⟨Or.inr, fun h => h.elim (fun e => e ▸ hk) id⟩
  · simp [or_comm]

omit [DecidableEq κ] in
theorem keys_filter_nodup (m : UMap κ ν) (f : κ × ν → Bool) (h : (keys m).Nodup) :
    (keys (m.filter f)).Nodup :=
  List.Nodup.sublist (List.Sublist.map _ List.filter_sublist) h

theorem keys_remove_nodup (m : UMap κ ν) (k : κ) (h : (keys m).Nodup) : (keys (remove m k)).Nodup :=
  keys_filter_nodup m _ h

private theorem foldl_insert (ps acc : List (κ × ν)) (h : (acc.map (·.1) ++ ps.map (·.1)).Nodup) :
    ps.foldl (fun m p => insert m p.1 p.2) acc = acc ++ ps := by
  induction ps generalizing acc with
  | nil => simp
  | cons p ps ih =>
    have hp : p.1 ∉ keys acc := by
      intro hm
      rw [List.nodup_append] at h
      exact h.2.2 _ hm _ (by simp) rfl
    rw [List.foldl_cons, insert_of_not_mem acc p.1 p.2 hp]
    rw [ih]
    · simp
    · simpa using h

/-- With distinct keys, `collect` (`HashMap::from_iter`) keeps every entry: no collision. -/
theorem collect_eq_of_nodup (ps : List (κ × ν)) (h : (ps.map (·.1)).Nodup) : collect ps = ps := by
  unfold collect
  rw [foldl_insert ps [] (by simpa using h)]
  simp

omit [DecidableEq κ] in
/-- The shape of every relocation helper, `iter().map(F).collect()`: when `F` is the
specification's `F'` on the entries and moves distinct keys to distinct keys, the result is the
image of the entry list under `F'`, with distinct keys again. -/
theorem collect_map {κ' ν' : Type} [DecidableEq κ'] (m : UMap κ ν) (F F' : κ × ν → κ' × ν')
    (hF : ∀ p ∈ m, F p = F' p) (hinj : ∀ p ∈ m, ∀ q ∈ m, (F' p).1 = (F' q).1 → p.1 = q.1)
    (h : (keys m).Nodup) : collect (m.map F) = m.map F' ∧ (keys (collect (m.map F))).Nodup := by
  have hn : (keys (m.map F')).Nodup := by
    unfold keys at h ⊢
    rw [List.map_map]
    exact List.pairwise_map.mpr ((List.pairwise_map.mp h).imp_of_mem
      (fun hp hq hne he => hne (hinj _ hp _ hq he)))
  rw [List.map_congr_left hF, collect_eq_of_nodup _ hn]
  exact ⟨rfl, hn⟩

omit [DecidableEq κ] in
/-- What a loop that inserts the entries of a list with distinct keys one by one needs at each step:
the key of the next entry is not among those already inserted (so `insert_of_not_mem` applies). -/
theorem not_mem_keys_of_nodup_append {acc : UMap κ ν} {x : κ × ν} {rest : List (κ × ν)}
    (h : (keys (acc ++ x :: rest)).Nodup) : x.1 ∉ keys acc := by
  intro hm
  rw [keys, List.map_append, List.nodup_append] at h
  exact h.2.2 _ hm _ List.mem_cons_self rfl

end UMap
end Mila
