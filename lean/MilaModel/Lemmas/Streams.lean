/-
The stream reader and writer over a bin archive: a stream call is the positional call at the
cursor, and a successful one advances the cursor by its width.
-/
import MilaModel.Model.BinStreams
import MilaModel.Lemmas.Res

namespace Mila

theorem Reader.step_eq_map {α : Type} (r : Reader) (w : Nat) (call : Nat → Res α) :
    r.step w call = (call r.pos).map (fun v => (v, ⟨r.pos + w⟩)) := by
  unfold Reader.step; cases call r.pos <;> rfl

theorem Writer.step_eq_map (w : Writer) (k : Nat) (call : BinArchive → Nat → Res BinArchive) :
    w.step k call = (call w.archive w.pos).map (fun a => ⟨a, w.pos + k⟩) := by
  unfold Writer.step; cases call w.archive w.pos <;> rfl

theorem Reader.step_ne_panic {α : Type} (r : Reader) (w : Nat) (call : Nat → Res α)
    (h : call r.pos ≠ .panic) : r.step w call ≠ .panic :=
  Reader.step_eq_map r w call ▸ Res.map_ne_panic _ h

theorem Writer.step_ne_panic (w : Writer) (k : Nat) (call : BinArchive → Nat → Res BinArchive)
    (h : call w.archive w.pos ≠ .panic) : w.step k call ≠ .panic :=
  Writer.step_eq_map w k call ▸ Res.map_ne_panic _ h

theorem Reader.step_pos {α : Type} {r : Reader} {w : Nat} {call : Nat → Res α} {v r'}
    (h : r.step w call = .ok (v, r')) : r'.pos = r.pos + w := by
  rw [Reader.step_eq_map] at h
  obtain ⟨_, _, hx⟩ := Res.map_eq_ok.mp h
  cases hx
  rfl

theorem Writer.step_ok {w w' : Writer} {width : Nat} {call : BinArchive → Nat → Res BinArchive}
    (h : w.step width call = .ok w') : call w.archive w.pos = .ok w'.archive := by
  rw [Writer.step_eq_map] at h
  obtain ⟨_, ha, rfl⟩ := Res.map_eq_ok.mp h
  exact ha

end Mila
