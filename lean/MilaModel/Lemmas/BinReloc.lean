/-
The relocation helpers of the model (`adjust_*`, `filter_*` of `src/bin_archive.rs`) against
`Spec.Reloc`: with distinct keys each helper is exactly the spec's image of the entry list, and
the keys of the image are distinct again.  Then what the spec's images do to the annotation
addresses (`Content.All`) and to lookups.
-/
import MilaModel.Lemmas.UMap
import MilaModel.Model.BinArchive
import MilaModel.Spec.Reloc

namespace Mila
open BinArchive Spec.Reloc UMap

theorem adjustPointer_add (x a n : Nat) : adjustPointer x a n false = shiftAt a n x := by
  unfold adjustPointer shiftAt; simp

/-- The label / pointer-target rule on propositions: its condition is that of `shiftAfter`. -/
theorem adjustGe_eq (x a n : Nat) (sub ge : Bool) : adjustGe x a n sub ge =
    if a < x ∨ (ge = true ∧ x = a) then (if sub then x - n else x + n) else x := by
  unfold adjustGe
  cases ge
  · simp
  · simp only [Bool.and_true, Bool.or_eq_true, decide_eq_true_eq, true_and]
    exact ite_congr (propext (by omega)) (fun _ => rfl) (fun _ => rfl)

theorem adjustGe_add (x a n : Nat) (ge : Bool) : adjustGe x a n false ge = shiftAfter a n ge x :=
  adjustGe_eq x a n false ge

theorem inRange_eq_inside (a n x : Nat) : inRange a n x = inside a n x := rfl

theorem inside_eq_false (a n x : Nat) : inside a n x = false ↔ x < a ∨ a + n ≤ x := by
  simp [inside]; omega

theorem adjustPointer_sub (x a n : Nat) (h : inside a n x = false) :
    adjustPointer x a n true = pull a n x := by
  rw [inside_eq_false] at h
  unfold adjustPointer pull
  simp only [ge_iff_le, if_true]
  split <;> split <;> omega

theorem adjustGe_sub (x a n : Nat) (ge : Bool) (h : inside a n x = false) :
    adjustGe x a n true ge = pull a n x := by
  have := (inside_eq_false a n x).mp h
  rw [adjustGe_eq, pull, if_pos rfl]
  split <;> split <;> omega

/-! Removing the inserted range puts every address back, and the other way round for the addresses
outside a removed range: hence the three address functions are injective. -/

theorem pull_shiftAt (a n x : Nat) : pull a n (shiftAt a n x) = x := by
  unfold shiftAt
  split
  · rw [pull, if_pos (by omega), Nat.add_sub_cancel]
  · rw [pull, if_neg (by omega)]

theorem pull_shiftAfter (a n : Nat) (ge : Bool) (x : Nat) : pull a n (shiftAfter a n ge x) = x := by
  unfold shiftAfter
  split
  · rw [pull, if_pos (by omega), Nat.add_sub_cancel]
  · rw [pull]; split <;> omega

theorem shiftAt_pull (a n x : Nat) (h : inside a n x = false) : shiftAt a n (pull a n x) = x := by
  have := (inside_eq_false a n x).mp h
  unfold pull
  split
  · rw [shiftAt, if_pos (by omega)]; omega
  · rw [shiftAt, if_neg (by omega)]

theorem shiftAt_inj (a n x y : Nat) (h : shiftAt a n x = shiftAt a n y) : x = y := by
  rw [← pull_shiftAt a n x, h, pull_shiftAt]

theorem shiftAfter_inj (a n : Nat) (ge : Bool) (x y : Nat) (h : shiftAfter a n ge x = shiftAfter a n ge y) :
    x = y := by
  rw [← pull_shiftAfter a n ge x, h, pull_shiftAfter]

theorem pull_inj (a n x y : Nat) (hx : inside a n x = false) (hy : inside a n y = false)
    (h : pull a n x = pull a n y) : x = y := by
  rw [← shiftAt_pull a n x hx, h, shiftAt_pull a n y hy]

theorem shiftAt_le (a n x : Nat) : shiftAt a n x ≤ x + n := by
  unfold shiftAt; split <;> omega

theorem shiftAfter_le (a n : Nat) (ge : Bool) (x : Nat) : shiftAfter a n ge x ≤ x + n := by
  unfold shiftAfter; split <;> omega

theorem pull_lt (a n x s : Nat) (hx : inside a n x = false) (hs : a + n ≤ s) (h : x < s) :
    pull a n x < s - n := by
  have := (inside_eq_false a n x).mp hx
  unfold pull; split <;> omega

theorem pull_le (a n x s : Nat) (hx : inside a n x = false) (hs : a + n ≤ s) (h : x ≤ s) :
    pull a n x ≤ s - n := by
  have := (inside_eq_false a n x).mp hx
  unfold pull; split <;> omega

theorem shiftAt_mod (a n x : Nat) (hn : n % 4 = 0) (hx : x % 4 = 0) : shiftAt a n x % 4 = 0 := by
  unfold shiftAt; split
  · rw [Nat.add_mod, hx, hn]
  · exact hx

theorem shiftAfter_mod (a n : Nat) (ge : Bool) (x : Nat) (hn : n % 4 = 0) (hx : x % 4 = 0) :
    shiftAfter a n ge x % 4 = 0 := by
  unfold shiftAfter; split
  · rw [Nat.add_mod, hx, hn]
  · exact hx

theorem pull_mod (a n x : Nat) (hn : n % 4 = 0) (hx : x % 4 = 0) : pull a n x % 4 = 0 := by
  unfold pull; split
  · exact Nat.sub_mod_eq_zero_of_mod_eq (hx.trans hn.symm)
  · exact hx

/-! ### allocate: every entry is shifted -/

variable {ν : Type}

theorem adjustText_add (m : UMap Nat ν) (a n : Nat) (h : (keys m).Nodup) :
    adjustText m a n false = m.map (fun p => (shiftAt a n p.1, p.2))
      ∧ (keys (adjustText m a n false)).Nodup :=
  collect_map m _ _ (fun p _ => by rw [adjustPointer_add]) (fun p _ q _ => shiftAt_inj a n p.1 q.1) h

theorem adjustLabels_add (m : UMap Nat ν) (a n : Nat) (ge : Bool) (h : (keys m).Nodup) :
    adjustLabels m a n false ge = m.map (fun p => (shiftAfter a n ge p.1, p.2))
      ∧ (keys (adjustLabels m a n false ge)).Nodup :=
  collect_map m _ _ (fun p _ => by rw [adjustGe_add]) (fun p _ q _ => shiftAfter_inj a n ge p.1 q.1) h

theorem adjustPointers_add (m : UMap Nat Nat) (a n : Nat) (ge : Bool) (h : (keys m).Nodup) :
    adjustPointers m a n false ge = m.map (fun p => (shiftAt a n p.1, shiftAfter a n ge p.2))
      ∧ (keys (adjustPointers m a n false ge)).Nodup :=
  collect_map m _ _ (fun p _ => by rw [adjustPointer_add, adjustGe_add])
    (fun p _ q _ => shiftAt_inj a n p.1 q.1) h

theorem adjustCStrings_add (m : UMap Str (List Nat)) (a n : Nat) (h : (keys m).Nodup) :
    adjustCStrings m a n false = m.map (fun p => (p.1, p.2.map (shiftAt a n)))
      ∧ (keys (adjustCStrings m a n false)).Nodup :=
  collect_map m _ _ (fun p _ => by simp only [adjustPointer_add]) (fun p _ q _ => id) h

/-! ### deallocate: filter, then shift back; truncate: filter -/

theorem filterTextOrLabels_eq (m : UMap Nat ν) (a n : Nat) (h : (keys m).Nodup) :
    filterTextOrLabels m a n = m.filter (fun p => !inside a n p.1) :=
  collect_eq_of_nodup _ (keys_filter_nodup m _ h)

theorem filterPointers_eq (m : UMap Nat Nat) (a n : Nat) (h : (keys m).Nodup) :
    filterPointers m a n = m.filter (fun p => !inside a n p.1 && !inside a n p.2) := by
  unfold filterPointers
  simp only [inRange_eq_inside, Bool.not_or]
  exact collect_eq_of_nodup _ (keys_filter_nodup m _ h)

theorem filterCStrings_eq (m : UMap Str (List Nat)) (keep : Nat → Bool) (h : (keys m).Nodup) :
    filterCStrings m keep = (m.map (fun p => (p.1, p.2.filter keep))).filter (fun p => !p.2.isEmpty)
      ∧ (keys (filterCStrings m keep)).Nodup := by
  have hn : (keys ((m.map (fun p => (p.1, p.2.filter keep))).filter (fun p => !p.2.isEmpty))).Nodup :=
    keys_filter_nodup _ _ (by rw [keys, List.map_map]; exact h)
  unfold filterCStrings
  rw [collect_eq_of_nodup _ hn]
  exact ⟨rfl, hn⟩

theorem not_inside_of_mem_filter (m : UMap Nat ν) (a n : Nat) (p : Nat × ν)
    (hp : p ∈ m.filter (fun p => !inside a n p.1)) : inside a n p.1 = false := by
  simpa using (List.mem_filter.mp hp).2

theorem dealloc_text (m : UMap Nat ν) (a n : Nat) (h : (keys m).Nodup) :
    adjustText (filterTextOrLabels m a n) a n true
        = (m.filter (fun p => !inside a n p.1)).map (fun p => (pull a n p.1, p.2))
      ∧ (keys (adjustText (filterTextOrLabels m a n) a n true)).Nodup := by
  have hin := not_inside_of_mem_filter m a n
  rw [filterTextOrLabels_eq m a n h]
  exact collect_map _ _ _ (fun p hp => by rw [adjustPointer_sub _ _ _ (hin p hp)])
    (fun p hp q hq => pull_inj a n _ _ (hin p hp) (hin q hq)) (keys_filter_nodup m _ h)

theorem dealloc_labels (m : UMap Nat ν) (a n : Nat) (ge : Bool) (h : (keys m).Nodup) :
    adjustLabels (filterTextOrLabels m a n) a n true ge
        = (m.filter (fun p => !inside a n p.1)).map (fun p => (pull a n p.1, p.2))
      ∧ (keys (adjustLabels (filterTextOrLabels m a n) a n true ge)).Nodup := by
  have hin := not_inside_of_mem_filter m a n
  rw [filterTextOrLabels_eq m a n h]
  exact collect_map _ _ _ (fun p hp => by rw [adjustGe_sub _ _ _ _ (hin p hp)])
    (fun p hp q hq => pull_inj a n _ _ (hin p hp) (hin q hq)) (keys_filter_nodup m _ h)

theorem dealloc_pointers (m : UMap Nat Nat) (a n : Nat) (ge : Bool) (h : (keys m).Nodup) :
    adjustPointers (filterPointers m a n) a n true ge
        = (m.filter (fun p => !inside a n p.1 && !inside a n p.2)).map
            (fun p => (pull a n p.1, pull a n p.2))
      ∧ (keys (adjustPointers (filterPointers m a n) a n true ge)).Nodup := by
  have hin : ∀ p ∈ m.filter (fun p => !inside a n p.1 && !inside a n p.2),
      inside a n p.1 = false ∧ inside a n p.2 = false :=
    fun p hp => by simpa using (List.mem_filter.mp hp).2
  rw [filterPointers_eq m a n h]
  exact collect_map _ _ _
    (fun p hp => by rw [adjustPointer_sub _ _ _ (hin p hp).1, adjustGe_sub _ _ _ _ (hin p hp).2])
    (fun p hp q hq => pull_inj a n _ _ (hin p hp).1 (hin q hq).1) (keys_filter_nodup m _ h)

theorem dealloc_cstrings (m : UMap Str (List Nat)) (a n : Nat) (h : (keys m).Nodup) :
    adjustCStrings (filterCStrings m (fun x => !inRange a n x)) a n true
        = ((m.map (fun p => (p.1, p.2.filter (fun x => !inside a n x)))).filter
            (fun p => !p.2.isEmpty)).map (fun p => (p.1, p.2.map (pull a n)))
      ∧ (keys (adjustCStrings (filterCStrings m (fun x => !inRange a n x)) a n true)).Nodup := by
  obtain ⟨he, hn⟩ := filterCStrings_eq m (fun x => !inside a n x) h
  simp only [inRange_eq_inside]
  rw [he] at hn ⊢
  refine collect_map _ _ _ (fun p hp => ?_) (fun _ _ _ _ => id) hn
  -- every address left in a bucket survived the filter, so it is outside the range
  obtain ⟨q, _, rfl⟩ := List.mem_map.mp (List.mem_filter.mp hp).1
  exact congrArg (Prod.mk q.1) (List.map_congr_left
    (fun x hx => adjustPointer_sub x a n (by simpa using (List.mem_filter.mp hx).2)))

/-- `Q` holds of every cell address of the content (string cells, pointer cells, c-string uses)
and `Ql` of every label address. -/
def Spec.Reloc.Content.All (Q Ql : Nat → Prop) (c : Content) : Prop :=
  (∀ p ∈ c.text, Q p.1) ∧ (∀ p ∈ c.ptrs, Q p.1) ∧ (∀ p ∈ c.labels, Ql p.1)
  ∧ (∀ p ∈ c.cstrs, ∀ x ∈ p.2, Q x)

variable {Q Ql Q' Ql' : Nat → Prop} {c : Content}

theorem all_allocated {a n : Nat} {ge : Bool} (h : c.All Q Ql) (hQ : ∀ x, Q x → Q' (shiftAt a n x))
    (hL : ∀ x, Ql x → Ql' (shiftAfter a n ge x)) : (allocated a n ge c).All Q' Ql' := by
  simp only [Content.All, allocated, List.forall_mem_map]
  exact ⟨fun p hp => hQ _ (h.1 p hp), fun p hp => hQ _ (h.2.1 p hp), fun p hp => hL _ (h.2.2.1 p hp),
    fun p hp x hx => hQ _ (h.2.2.2 p hp x hx)⟩

theorem all_deallocated {a n : Nat} (h : c.All Q Ql)
    (hQ : ∀ x, inside a n x = false → Q x → Q' (pull a n x))
    (hL : ∀ x, inside a n x = false → Ql x → Ql' (pull a n x)) : (deallocated a n c).All Q' Ql' := by
  simp only [Content.All, deallocated, List.mem_filter, List.mem_map, Bool.and_eq_true,
    Bool.not_eq_eq_eq_not, Bool.not_true, and_imp, forall_exists_index, forall_apply_eq_imp_iff₂]
  refine ⟨fun _ x hx hi e => e ▸ hQ _ hi (h.1 x hx), fun _ x hx hi _ e => e ▸ hQ _ hi (h.2.1 x hx),
    fun _ x hx hi e => e ▸ hL _ hi (h.2.2.1 x hx), fun _ q hq _ e x hx => ?_⟩
  subst e
  obtain ⟨y, hy, rfl⟩ := List.mem_map.mp hx
  exact hQ _ (by simpa using (List.mem_filter.mp hy).2) (h.2.2.2 q hq y (List.mem_filter.mp hy).1)

theorem all_truncated {cut : Nat} (h : c.All Q Ql) (hcut : cut < c.data.length)
    (hQ : ∀ x, x < cut → Q x → Q' x) (hL : ∀ x, x < cut → Ql x → Ql' x) :
    (truncated cut c).All Q' Ql' := by
  simp only [Content.All, truncated, Nat.not_le.mpr hcut, if_false, List.mem_filter, List.mem_map,
    decide_eq_true_eq, and_imp, forall_exists_index, forall_apply_eq_imp_iff₂]
  exact ⟨fun p hp hi => hQ _ hi (h.1 p hp), fun p hp hi => hQ _ hi (h.2.1 p hp),
    fun p hp hi => hL _ hi (h.2.2.1 p hp), fun p hp _ x hx hi => hQ _ hi (h.2.2.2 p hp x hx)⟩

theorem length_allocated {a n : Nat} {ge : Bool} (h : a ≤ c.data.length) :
    (allocated a n ge c).data.length = c.data.length + n := by
  simp [allocated, Nat.min_eq_left h]; omega

theorem length_deallocated {a n : Nat} (h : a + n ≤ c.data.length) :
    (deallocated a n c).data.length = c.data.length - n := by
  simp [deallocated, Nat.min_eq_left (Nat.le_of_add_right_le h)]; omega

theorem length_truncated {cut : Nat} (h : cut < c.data.length) :
    (truncated cut c).data.length = cut := by
  simp [truncated, Nat.not_le.mpr h, Nat.min_eq_left (Nat.le_of_lt h)]

theorem lookup_mapKey_inj {ν μ : Type} (m : List (Nat × ν)) (f : Nat → Nat) (g : ν → μ)
    (hf : ∀ x y, f x = f y → x = y) (k : Nat) :
    lookup (m.map (fun p => (f p.1, g p.2))) (f k) = (lookup m k).map g := by
  induction m with
  | nil => rfl
  | cons p m ih =>
    unfold lookup at *
    simp only [List.map_cons, List.find?_cons]
    by_cases hp : p.1 = k
    · simp [hp]
    · have : f p.1 ≠ f k := fun h => hp (hf _ _ h)
      simp [hp, this]
      simpa using ih

theorem lookup_mapKey_none {ν μ : Type} (m : List (Nat × ν)) (f : Nat → Nat) (g : ν → μ) (y : Nat)
    (h : ∀ x, f x ≠ y) : lookup (m.map (fun p => (f p.1, g p.2))) y = none := by
  unfold lookup
  rw [List.find?_eq_none.mpr, Option.map_none]
  intro q hq
  obtain ⟨p, _, rfl⟩ := List.mem_map.mp hq
  simpa using h p.1

end Mila
