/-
C18: facts about `compute_flags` — the flag vector in closed form, the flag-bit lemma
(bit `i` of the vector is set exactly when field `i` is present), the marker bit, the byte range
of every flag, and the announced record size.
-/
import MilaModel.Model.AssetBinary
import MilaModel.Lemmas.AsetBits

namespace Mila.Asset
open Mila Layered

theorem range8 : List.range 8 = [0, 1, 2, 3, 4, 5, 6, 7] := by decide

theorem flagByte_eq (s : AssetSpec) (b : Nat) :
    flagByte s b = orFold (fun k => present s (8 * b + k) = true) (List.range 8) 0 := rfl

theorem testBit_flagByte (s : AssetSpec) (b k : Nat) :
    (flagByte s b).testBit k = (decide (k < 8) && present s (8 * b + k)) := by
  rw [flagByte_eq, testBit_orFold]
  by_cases hk : k < 8 <;> simp [hk]

theorem flagByte_lt (s : AssetSpec) (b : Nat) : flagByte s b < 256 := by
  rw [flagByte_eq]
  have := orFold_lt (fun k => present s (8 * b + k) = true) (List.range 8) 8 (fun x hx => List.mem_range.1 hx)
  omega

theorem flagByte_eq_zero (s : AssetSpec) (b : Nat) :
    flagByte s b = 0 ↔ ∀ k, k < 8 → present s (8 * b + k) = false := by
  rw [flagByte_eq, orFold_eq_zero_iff]
  simp only [List.mem_range, Bool.not_eq_true]

/-- The record needs the long form: one of the flag bytes 4, 5, 6 is non-zero. -/
def isLong (s : AssetSpec) : Prop := ¬ (flagByte s 4 = 0 ∧ flagByte s 5 = 0 ∧ flagByte s 6 = 0)

instance (s : AssetSpec) : Decidable (isLong s) := by unfold isLong; exact inferInstance

/-- The flag vector `compute_flags` returns, in closed form. -/
def finalFlags (s : AssetSpec) : List Nat :=
  if isLong s then
    [flagByte s 0 ||| 1, flagByte s 1, flagByte s 2, flagByte s 3, flagByte s 4, flagByte s 5,
      flagByte s 6, flagByte s 7]
  else [flagByte s 0, flagByte s 1, flagByte s 2, flagByte s 3]

/-- Number of set bits the size computation counts (before the marker is added). -/
def countedBits (s : AssetSpec) : Nat :=
  if isLong s then
    countBits (flagByte s 0) + countBits (flagByte s 1) + countBits (flagByte s 2)
      + countBits (flagByte s 3) + countBits (flagByte s 4) + countBits (flagByte s 5)
      + countBits (flagByte s 6) + countBits (flagByte s 7)
  else countBits (flagByte s 0) + countBits (flagByte s 1) + countBits (flagByte s 2)
      + countBits (flagByte s 3)

theorem computeFlags_eq (s : AssetSpec) :
    computeFlags s = (finalFlags s, (finalFlags s).length + 4 + 4 * countedBits s) := by
  unfold computeFlags finalFlags countedBits isLong
  simp only [range8, List.map_cons, List.map_nil]
  by_cases h : flagByte s 4 = 0 ∧ flagByte s 5 = 0 ∧ flagByte s 6 = 0
  · simp [h]; omega
  · simp [h]
    omega

theorem finalFlags_eq_map (s : AssetSpec) :
    finalFlags s = (List.range (if isLong s then 8 else 4)).map
      (fun b => if b = 0 ∧ isLong s then flagByte s 0 ||| 1 else flagByte s b) := by
  unfold finalFlags
  by_cases hl : isLong s
  · simp only [hl, if_true]; rfl
  · simp only [hl, if_false]; rfl

theorem finalFlags_length (s : AssetSpec) : (finalFlags s).length = if isLong s then 8 else 4 := by
  rw [finalFlags_eq_map, List.length_map, List.length_range]

theorem finalFlags_lt (s : AssetSpec) : ∀ x ∈ finalFlags s, x < 256 := by
  intro x hx
  rw [finalFlags_eq_map, List.mem_map] at hx
  obtain ⟨b, _, rfl⟩ := hx
  split
  · exact Nat.or_lt_two_pow (n := 8) (flagByte_lt s 0) (by decide)
  · exact flagByte_lt s b

theorem getD_map_range (f : Nat → Nat) (n b : Nat) :
    ((List.range n).map f).getD b 0 = if b < n then f b else 0 := by
  rw [List.getD_eq_getElem?_getD, List.getElem?_map]
  by_cases hb : b < n
  · rw [List.getElem?_range hb, if_pos hb]; rfl
  · rw [List.getElem?_eq_none (by simpa using hb), if_neg hb]; rfl

theorem present_zero (s : AssetSpec) : present s 0 = false := by simp [present]

theorem present_high (s : AssetSpec) (i : Nat) (h : 51 < i) : present s i = false := by
  unfold present
  have h1 : ¬ i = 0 := by omega
  have h2 : ¬ i ≤ 33 := by omega
  have h3 : ¬ i ≤ 51 := by omega
  simp [h1, h2, h3]

theorem present_val (s : AssetSpec) (i : Nat) (h1 : 34 ≤ i) (h2 : i ≤ 51) :
    present s i = (valField s i).1 := by
  unfold present
  have : ¬ i = 0 := by omega
  have h33 : ¬ i ≤ 33 := by omega
  simp [this, h33, h2]

theorem present_str (s : AssetSpec) (i : Nat) (h1 : 1 ≤ i) (h2 : i ≤ 33) :
    present s i = (strField s i).isSome := by
  unfold present
  have : ¬ i = 0 := by omega
  simp [this, h2]

theorem present_of_short (s : AssetSpec) (h : ¬ isLong s) (i : Nat) (h1 : 32 ≤ i) :
    present s i = false := by
  unfold isLong at h
  have h : flagByte s 4 = 0 ∧ flagByte s 5 = 0 ∧ flagByte s 6 = 0 := Classical.not_not.1 h
  by_cases hi : i ≤ 51
  · have hb : i / 8 = 4 ∨ i / 8 = 5 ∨ i / 8 = 6 := by omega
    have hk : i % 8 < 8 := Nat.mod_lt _ (by decide)
    have hz : flagByte s (i / 8) = 0 := by
      rcases hb with hb | hb | hb
      · rw [hb]; exact h.1
      · rw [hb]; exact h.2.1
      · rw [hb]; exact h.2.2
    have := (flagByte_eq_zero s (i / 8)).1 hz (i % 8) hk
    rwa [Nat.div_add_mod] at this
  · exact present_high s i (by omega)

theorem isLong_iff (s : AssetSpec) : isLong s ↔ ∃ i, 32 ≤ i ∧ i ≤ 51 ∧ present s i = true := by
  constructor
  · intro h
    apply Classical.byContradiction
    intro hn
    apply h
    have hall : ∀ i, 32 ≤ i → i ≤ 55 → present s i = false := by
      intro i h1 h2
      by_cases h3 : i ≤ 51
      · cases hp : present s i with
        | false => rfl
        | true => exact absurd ⟨i, h1, h3, hp⟩ hn
      · exact present_high s i (by omega)
    refine ⟨?_, ?_, ?_⟩ <;> rw [flagByte_eq_zero] <;> intro k hk <;> exact hall _ (by omega) (by omega)
  · intro ⟨i, h1, _, hp⟩ hs
    have := present_of_short s (fun hl => hl hs) i h1
    rw [hp] at this; cases this

theorem testBit_one (k : Nat) : (1 : Nat).testBit k = decide (k = 0) := by
  rw [Bool.eq_iff_iff, decide_eq_true_iff]
  exact Nat.testBit_one_eq_true_iff_self_eq_zero

/-- **Flag-bit lemma**: bit `i` of the final flag vector is set iff field `i` is present. -/
theorem flagBit_final (s : AssetSpec) (i : Nat) (h1 : 1 ≤ i) (h2 : i ≤ 51) :
    flagBit (finalFlags s) i = present s i := by
  unfold flagBit
  rw [and_shift_ne_zero, finalFlags_eq_map, getD_map_range]
  have hk : i % 8 < 8 := Nat.mod_lt _ (by decide)
  have hi : 8 * (i / 8) + i % 8 = i := Nat.div_add_mod i 8
  by_cases hb : i / 8 < (if isLong s then 8 else 4)
  · rw [if_pos hb]
    by_cases h0 : i / 8 = 0 ∧ isLong s
    · -- entry 0 of the long form: the marker is bit 0, and `i % 8 = i ≠ 0`
      have : ¬ i % 8 = 0 := by omega
      rw [if_pos h0, Nat.testBit_or, testBit_one, testBit_flagByte]
      rw [h0.1] at hi
      simp [hk, this, hi]
    · rw [if_neg h0, testBit_flagByte, hi]; simp [hk]
  · -- a byte beyond the short form: field `i ≥ 32` is absent
    have hl : ¬ isLong s := fun hl => by rw [if_pos hl] at hb; omega
    rw [if_neg hb, Nat.zero_testBit, present_of_short s hl i (by rw [if_neg hl] at hb; omega)]

theorem marker_final (s : AssetSpec) : ((finalFlags s).getD 0 0 &&& 1 = 1) ↔ isLong s := by
  have h0 : (flagByte s 0).testBit 0 = false := by
    rw [testBit_flagByte]; simp [present_zero]
  have hpos : 0 < (if isLong s then 8 else 4) := by split <;> decide
  rw [Nat.and_one_is_mod, finalFlags_eq_map, getD_map_range, if_pos hpos]
  by_cases hl : isLong s
  · simp [hl]
  · rw [Nat.testBit_zero] at h0
    simpa [hl] using h0

theorem countBits_flagByte (s : AssetSpec) (b : Nat) :
    countBits (flagByte s b) = ((List.range' 0 8).map (fun k => 8 * b + k)).countP (present s) := by
  unfold countBits
  rw [List.countP_map, List.range_eq_range']
  apply List.countP_congr
  intro k hk
  have hk8 : k < 8 := by simpa using (List.mem_range'_1.1 hk).2
  rw [and_shift_ne_zero, testBit_flagByte]
  simp [hk8]

private theorem idx32 :
    (List.range' 0 4).flatMap (fun b => (List.range' 0 8).map (fun k => 8 * b + k)) = 0 :: List.range' 1 31 := by
  decide +kernel

private theorem idx64 :
    (List.range' 0 8).flatMap (fun b => (List.range' 0 8).map (fun k => 8 * b + k))
      = 0 :: (List.range' 1 31 ++ (List.range' 32 20 ++ List.range' 52 12)) := by
  decide +kernel

private theorem sum8 (c : Nat → Nat) :
    ((List.range' 0 8).map c).sum = c 0 + c 1 + c 2 + c 3 + c 4 + c 5 + c 6 + c 7 := by
  rw [show List.range' 0 8 = [0, 1, 2, 3, 4, 5, 6, 7] from by decide]
  simp only [List.map_cons, List.map_nil, List.sum_cons, List.sum_nil]; omega

private theorem sum4 (c : Nat → Nat) :
    ((List.range' 0 4).map c).sum = c 0 + c 1 + c 2 + c 3 := by
  rw [show List.range' 0 4 = [0, 1, 2, 3] from by decide]
  simp only [List.map_cons, List.map_nil, List.sum_cons, List.sum_nil]; omega

/-- The bits counted by the size computation are the present fields. -/
theorem countedBits_eq (s : AssetSpec) :
    countedBits s = (List.range' 1 31).countP (present s)
      + (if isLong s then (List.range' 32 20).countP (present s) else 0) := by
  unfold countedBits
  by_cases hl : isLong s
  · simp only [hl, if_true]
    have := sum_countP_flatMap (present s) (List.range' 0 8) (fun b => (List.range' 0 8).map (fun k => 8 * b + k))
    rw [idx64, sum8] at this
    simp only [List.countP_cons, present_zero, List.countP_append, Bool.false_eq_true, if_false,
      Nat.add_zero] at this
    have hz : (List.range' 52 12).countP (present s) = 0 := by
      rw [List.countP_eq_zero]
      intro i hi
      have : 52 ≤ i := (List.mem_range'_1.1 hi).1
      simp [present_high s i (by omega)]
    rw [hz] at this
    simp only [countBits_flagByte]
    omega
  · simp only [hl, if_false]
    have := sum_countP_flatMap (present s) (List.range' 0 4) (fun b => (List.range' 0 8).map (fun k => 8 * b + k))
    rw [idx32, sum4] at this
    simp only [List.countP_cons, present_zero, Bool.false_eq_true, if_false, Nat.add_zero] at this
    simp only [countBits_flagByte]
    omega

end Mila.Asset
