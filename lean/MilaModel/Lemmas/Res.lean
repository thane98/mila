/-
The three-way result type `Res`: a guard `if c then ok x else err e` (the shape of every checked
call of the model), `map`, `bind`, and loops (`foldlM`) whose step never panics or keeps an invariant.
-/
import MilaModel.Basic

namespace Mila.Res

section guard
variable {α : Type} {c : Prop} [Decidable c] {x y : α} {e : Err}

theorem guard_ne_panic {r : Res α} (h : r ≠ panic) : (if c then r else err e) ≠ panic := by
  split
  · exact h
  · nofun

theorem guard_eq_ok : (if c then ok x else err e) = ok y ↔ c ∧ x = y := by
  split <;> simp [*]

theorem guard_ok_prop {P : α → Prop} (hx : P x) (h : (if c then ok x else err e) = ok y) : P y :=
  (guard_eq_ok.mp h).2 ▸ hx

theorem guard_isOk : (if c then ok x else err e).isOk = true ↔ c := by
  split <;> simp [isOk, *]

theorem map_guard {β : Type} (f : α → β) :
    (if c then ok x else err e).map f = if c then ok (f x) else err e := by
  split <;> rfl

end guard

variable {α : Type}

theorem map_map {β γ : Type} (r : Res α) (f : α → β) (g : β → γ) :
    (r.map f).map g = r.map (fun x => g (f x)) := by
  cases r <;> rfl

theorem map_ne_panic {β : Type} {r : Res α} (f : α → β) (h : r ≠ panic) : r.map f ≠ panic := by
  cases r <;> simp_all [map]

theorem map_eq_ok {β : Type} {r : Res α} {f : α → β} {b : β} :
    r.map f = ok b ↔ ∃ a, r = ok a ∧ f a = b := by
  cases r <;> simp [map]

theorem err_of_not_ok {r : Res α} (hp : r ≠ .panic) (hk : ∀ v, r ≠ .ok v) : ∃ x, r = .err x := by
  cases r with
  | ok v => exact absurd rfl (hk v)
  | err x => exact ⟨x, rfl⟩
  | panic => exact absurd rfl hp

theorem bind_ne_panic {α β : Type} (r : Res α) (f : α → Res β) (hr : r ≠ .panic)
    (hf : ∀ a, f a ≠ .panic) : r.bind f ≠ .panic := by
  cases r with
  | ok a => exact hf a
  | err e => nofun
  | panic => exact absurd rfl hr

@[simp] theorem foldlM_ne_panic {α β : Type} (f : β → α → Res β) (hf : ∀ b a, f b a ≠ .panic) :
    ∀ (l : List α) (b : β), l.foldlM f b ≠ .panic
  | [], _ => nofun
  | x :: xs, b => bind_ne_panic _ _ (hf b x) (foldlM_ne_panic f hf xs)

theorem foldlM_inv {α β : Type} (f : β → α → Res β) (P : β → Prop)
    (hf : ∀ b a b', P b → f b a = .ok b' → P b') :
    ∀ (l : List α) (b b' : β), P b → l.foldlM f b = .ok b' → P b'
  | [], b, b', hb, h => by cases h; exact hb
  | x :: xs, b, b', hb, h => by
    rw [List.foldlM_cons] at h
    cases hfx : f b x with
    | ok b1 => rw [hfx] at h; exact foldlM_inv f P hf xs b1 b' (hf b x b1 hb hfx) h
    | err er => rw [hfx] at h; cases h
    | panic => rw [hfx] at h; cases h

end Mila.Res
