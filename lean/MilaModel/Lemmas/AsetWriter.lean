/-
Writer invariant shared by C17 and C18: while a record is being emitted through the stream writer,
the cells written so far are laid out from address 0 (`cellsAt`), the cursor sits right behind them,
nothing beyond the cursor carries a string, strings sit on aligned cells, there are no pointers.
Each primitive write extends the layout by one cell and leaves the rest alone (`WInv.extend`);
`Writes D op cells` says so of a whole writer step, together with `Compose.Tidy D` being kept, and
steps compose (`Writes.seq`).
-/
import MilaModel.Lemmas.ComposeTidy
import MilaModel.Lemmas.Streams

namespace Mila.Layered
open BinArchive Compose

structure WInv (a : BinArchive) (pos : Nat) (cs : List Cell) : Prop where
  pos_eq : pos = 4 * cs.length
  le : pos ≤ a.size
  little : a.endian = .little
  cells : cellsAt a 0 cs
  fresh : ∀ x, pos ≤ x → a.text.get x = none
  aligned : ∀ x, a.text.get x ≠ none → x % 4 = 0
  noptr : a.pointers = []

theorem WInv.plain {a : BinArchive} {pos : Nat} {cs : List Cell} (h : WInv a pos cs) : Plain a :=
  ⟨h.aligned, h.noptr⟩

theorem WInv.cast {a : BinArchive} {pos pos' : Nat} {cs cs' : List Cell} (h : WInv a pos cs)
    (hp : pos = pos') (hc : cs = cs') : WInv a pos' cs' := hp ▸ hc ▸ h

/-- One more cell: `a'` differs from `a` at the cursor cell only, where it shows `c`. -/
theorem WInv.extend {a a' : BinArchive} {pos : Nat} {cs : List Cell} (h : WInv a pos cs) {c : Cell}
    (hc : cellAt a' pos c) (hsize : a'.size = a.size) (hend : a'.endian = a.endian)
    (hptr : a'.pointers = a.pointers)
    (hdata : ∀ p, p + 4 ≤ pos → slice a'.data p 4 = slice a.data p 4)
    (htext : ∀ x, x ≠ pos → a'.text.get x = a.text.get x) :
    WInv a' (pos + 4) (cs ++ [c]) := by
  have hfit : pos + 4 ≤ a'.size := by cases c <;> exact hc.1
  refine ⟨by simp [h.pos_eq]; omega, hfit, hend.trans h.little, ?_, ?_, ?_, hptr.trans h.noptr⟩
  · rw [cellsAt_append, ← h.pos_eq, Nat.zero_add]
    refine ⟨cellsAt_mono (lim := pos) ?_ cs 0 (by rw [h.pos_eq]; omega) h.cells, hc, trivial⟩
    intro p c' hp hc'
    have ht := htext p (by omega)
    cases c' with
    | raw w => exact ⟨by rw [hsize]; exact hc'.1, (hdata p hp).trans hc'.2.1, ht.trans hc'.2.2⟩
    | str s => exact ⟨by rw [hsize]; exact hc'.1, ht.trans hc'.2⟩
  · intro x hx; rw [htext x (by omega)]; exact h.fresh x (by omega)
  · intro x hx
    by_cases e : x = pos
    · rw [e, h.pos_eq]; omega
    · rw [htext x e] at hx; exact h.aligned x hx

theorem WInv.patch4 {a : BinArchive} {pos : Nat} {cs : List Cell} (h : WInv a pos cs)
    (hfit : pos + 4 ≤ a.size) (v : Bytes) (hv : v.length = 4) :
    WInv { a with data := patch a.data pos v } (pos + 4) (cs ++ [.raw v]) := by
  have hfit' : pos + v.length ≤ a.data.length := by rw [hv]; exact hfit
  have hsize : ({ a with data := patch a.data pos v } : BinArchive).size = a.size :=
    length_patch _ _ _ hfit'
  have hself := slice_patch a.data pos v hfit'
  rw [hv] at hself
  exact h.extend ⟨by rw [hsize]; exact hfit, hself, h.fresh pos (Nat.le_refl _)⟩ hsize rfl rfl
    (fun p hp => slice_patch_before _ _ _ _ _ hfit' hp) (fun _ _ => rfl)

theorem writeBytes_patch (a : BinArchive) (v : Bytes) (pos : Nat) (h : pos + v.length ≤ a.size) :
    Writer.writeBytes ⟨a, pos⟩ v = (⟨{ a with data := patch a.data pos v }, pos + v.length⟩, .ok ()) := by
  unfold Writer.writeBytes
  cases v with
  | nil => simp [patch_nil]
  | cons b v =>
    simp only [List.isEmpty_cons, Bool.false_eq_true, if_false]
    unfold BinArchive.writeBytes
    rw [validateAddress_lt (by simp only [List.length_cons] at h; omega), validateAddress_le h]

variable {D : Str → Prop}

/-- The writer step `op` appends the cells `new`: started behind the cells `cs` with room for
`new`, it succeeds, leaves the cursor behind `cs ++ new`, changes neither size nor labels, and
keeps the archive tidy (`Compose.Tidy`, the strings it writes being in `D`). -/
def Writes (D : Str → Prop) (op : Writer → Res Writer) (new : List Cell) : Prop :=
  ∀ (a : BinArchive) (pos : Nat) (cs : List Cell), WInv a pos cs → pos + 4 * new.length ≤ a.size →
    ∃ a', op ⟨a, pos⟩ = .ok ⟨a', pos + 4 * new.length⟩ ∧ WInv a' (pos + 4 * new.length) (cs ++ new)
      ∧ a'.size = a.size ∧ a'.labels = a.labels ∧ (Tidy D a → Tidy D a')

theorem Writes.nil : Writes D (fun w => .ok w) [] :=
  fun a _ _ h _ => ⟨a, rfl, by simpa using h, rfl, rfl, id⟩

theorem Writes.seq {op1 op2 : Writer → Res Writer} {c1 c2 : List Cell} (h1 : Writes D op1 c1)
    (h2 : Writes D op2 c2) :
    Writes D (fun w => match op1 w with
      | .ok w1 => op2 w1
      | .err e => .err e
      | .panic => .panic) (c1 ++ c2) := by
  intro a pos cs h hfit
  have e : pos + 4 * (c1 ++ c2).length = pos + 4 * c1.length + 4 * c2.length := by
    rw [List.length_append]; omega
  rw [e] at hfit ⊢
  obtain ⟨a1, hw1, hi1, hs1, hl1, ht1⟩ := h1 a pos cs h (by omega)
  obtain ⟨a2, hw2, hi2, hs2, hl2, ht2⟩ := h2 a1 _ _ hi1 (by rw [hs1]; omega)
  refine ⟨a2, ?_, ?_, hs2.trans hs1, hl2.trans hl1, ht2 ∘ ht1⟩
  · simp only [hw1]; exact hw2
  · rw [← List.append_assoc]; exact hi2

theorem writes_u32 (v : Nat) : Writes D (fun w => w.writeU32 v) [.raw (leBytes 4 v)] := by
  intro a pos cs h hfit
  have hw : Writer.writeU32 ⟨a, pos⟩ v
      = .ok ⟨{ a with data := patch a.data pos (leBytes 4 v) }, pos + 4⟩ := by
    unfold Writer.writeU32 Writer.step writeUInt
    simp [validateCell_ok (by decide : 0 < 4) hfit, h.little, Endian.enc]
  exact ⟨_, hw, h.patch4 hfit _ (leBytes_length 4 v),
    length_patch _ _ _ (by rw [leBytes_length]; exact hfit), rfl, fun t => t.writeUInt4 (Writer.step_ok hw)⟩

theorem writes_string (s : Option Str) (hs : ∀ v, s = some v → D v) :
    Writes D (fun w => w.writeString s) [.str s] := by
  intro a pos cs h hfit
  have hv := validateCell_ok (by decide : 0 < 4) hfit
  cases s with
  | some s =>
    have hw : Writer.writeString ⟨a, pos⟩ (some s)
        = .ok ⟨{ a with text := a.text.insert pos s }, pos + 4⟩ := by
      unfold Writer.writeString Writer.step BinArchive.writeString
      simp [hv]
    refine ⟨_, hw, ?_, rfl, rfl, fun t => t.writeString hs (Writer.step_ok hw)⟩
    exact h.extend ⟨hfit, by show (a.text.insert pos s).get pos = _; rw [UMap.get_insert, if_pos rfl]⟩
      rfl rfl rfl (fun _ _ => rfl)
      (fun x hx => by show (a.text.insert pos s).get x = _; rw [UMap.get_insert, if_neg hx])
  | none =>
    have hw : Writer.writeString ⟨a, pos⟩ none
        = .ok ⟨{ a with text := a.text.remove pos }, pos + 4⟩ := by
      unfold Writer.writeString Writer.step BinArchive.writeString deleteString
      simp [hv]
    refine ⟨_, hw, ?_, rfl, rfl, fun t => t.writeString hs (Writer.step_ok hw)⟩
    exact h.extend ⟨hfit, by show (a.text.remove pos).get pos = _; rw [UMap.get_remove, if_pos rfl]⟩
      rfl rfl rfl (fun _ _ => rfl)
      (fun x hx => by show (a.text.remove pos).get x = _; rw [UMap.get_remove, if_neg hx])

theorem size_allocateAtEnd (a : BinArchive) (n : Nat) : (a.allocateAtEnd n).size = a.size + n := by
  unfold BinArchive.allocateAtEnd size; simp

theorem WInv.allocateAtEnd {a : BinArchive} {pos : Nat} {cs : List Cell} (h : WInv a pos cs)
    (n : Nat) : WInv (a.allocateAtEnd n) pos cs := by
  have hsize := size_allocateAtEnd a n
  refine ⟨h.pos_eq, by rw [hsize]; have := h.le; omega, h.little, ?_, h.fresh, h.aligned, h.noptr⟩
  refine cellsAt_mono (lim := pos) ?_ cs 0 (by rw [h.pos_eq]; omega) h.cells
  intro p c hp hc
  have hle := h.le
  cases c with
  | raw w =>
    obtain ⟨h1, h2, h3⟩ := hc
    refine ⟨by rw [hsize]; omega, ?_, h3⟩
    show slice (a.data ++ List.replicate n 0) p 4 = w
    rw [slice_append_left _ _ _ _ (by unfold size at h1; exact h1)]; exact h2
  | str s =>
    obtain ⟨h1, h2⟩ := hc
    exact ⟨by rw [hsize]; omega, h2⟩

theorem WInv.withLabels {a : BinArchive} {pos : Nat} {cs : List Cell} (h : WInv a pos cs)
    (l : UMap Nat (List Str)) : WInv { a with labels := l } pos cs := by
  refine ⟨h.pos_eq, h.le, h.little, ?_, h.fresh, h.aligned, h.noptr⟩
  refine cellsAt_mono (lim := pos) ?_ cs 0 (by rw [h.pos_eq]; omega) h.cells
  intro p c _ hc
  cases c with
  | raw w => exact hc
  | str s => exact hc

end Mila.Layered
