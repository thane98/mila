/-
C05, part 2: re-serialisation never produces the `panic` outcome: `BinArchive.serialize`, `Asset.build`,
`Fe9Arc.serialize` and `TextArchive.buildArchive` (its data stage by `TextLayout.buildData_ne_panic`)
for every value and codec; `Aset.build` for every file without an empty set — the
Rust indexes `set[0]` (aset.rs:472), which the model transcribes as a `panic` on an empty set, and the
reader only produces sets of 257 entries (`readSets_length`).  The `serialize` of text archive, aset and
asset binary is the archive so built, handed to `BinArchive.serialize`.
-/
import MilaModel.Lemmas.BinCell
import MilaModel.Lemmas.TextLayout
import MilaModel.Model.Aset
import MilaModel.Model.AssetBinary
import MilaModel.Model.Fe9Arc

namespace Mila.ParsersLemmas
open Mila BinArchive

/- The proofs go as in `ParsersTotal`: one case per path through the function, the callees' lemmas in
the `simp` set. -/
attribute [local simp] writeUInt_ne_panic writeString_ne_panic writeLabel_ne_panic writeBytes_ne_panic
  Writer.writeBytes_ne_panic

@[local simp] theorem addText_total (c : Codec) (tp : TextPool) (s : Str) : addText c tp s ≠ .panic := by
  fun_cases addText c tp s <;> simp_all

@[local simp] theorem patchWord_total (e : Endian) (d : Bytes) (at_ v : Nat) : patchWord e d at_ v ≠ .panic := by
  unfold patchWord; split <;> simp

@[local simp] theorem cstringStep_total (c : Codec) (n : Nat) (st : TextPool × List (Nat × Nat))
    (p : Str × List Nat) : cstringStep c n st p ≠ .panic := by
  fun_cases cstringStep c n st p <;> simp_all

@[local simp] theorem labelStep_total (c : Codec) (st : TextPool × List Nat) (al : Nat × Str) :
    labelStep c st al ≠ .panic := by
  fun_cases labelStep c st al <;> simp_all

@[local simp] theorem textStep_total (c : Codec) (e : Endian) (ts : Nat)
    (st : TextPool × Bytes × List (Nat × List Nat)) (p : Nat × Str) : textStep c e ts st p ≠ .panic := by
  fun_cases textStep c e ts st p <;> simp_all

@[local simp] theorem serializeTail_total (c : Codec) (e : Endian) (data0 rawCStrings : Bytes)
    (pointers : List (Nat × Nat)) (labels : UMap Nat (List Str)) (text : UMap Nat Str) :
    serializeTail c e data0 rawCStrings pointers labels text ≠ .panic := by
  fun_cases serializeTail c e data0 rawCStrings pointers labels text <;> simp_all

@[local simp] theorem bin_serialize_total (c : Codec) (a : BinArchive) : BinArchive.serialize c a ≠ .panic := by
  fun_cases BinArchive.serialize c a <;> simp_all

section text
open TextArchive

@[local simp] theorem text_writeLabels_total (a : BinArchive) (info : List (Str × Nat)) :
    TextArchive.writeLabels a info ≠ .panic := by
  fun_induction TextArchive.writeLabels a info <;> simp_all

theorem text_buildArchive_total (c : Codec) (t : TextArchive) : buildArchive c t ≠ .panic := by
  fun_cases buildArchive c t <;> try simp
  · -- the `write_bytes`, skipped on an empty buffer
    rename_i hw
    split at hw
    · cases hw
    · exact writeBytes_ne_panic _ _ _ hw
  · exact Lemmas.TextLayout.buildData_ne_panic c t ‹_›

end text

@[local simp] theorem writer_writeU32 (w : Writer) (v : Nat) : w.writeU32 v ≠ .panic :=
  Writer.step_ne_panic _ _ _ (writeUInt_ne_panic _ _ 4 v)

@[local simp] theorem writer_writeString (w : Writer) (v : Option Str) : w.writeString v ≠ .panic :=
  Writer.step_ne_panic _ _ _ (writeString_ne_panic _ _ v)

@[local simp] theorem writer_writeLabel (w : Writer) (v : Str) : w.writeLabel v ≠ .panic :=
  Writer.step_ne_panic _ _ _ (writeLabel_ne_panic _ _ v)

section aset
open Aset

@[local simp] theorem writeSlots_total (set : List (Option Str)) (i n j : Nat) (w : Writer) :
    writeSlots set i n j w ≠ .panic := by
  fun_induction writeSlots set i n j w <;> simp_all

@[local simp] theorem writeGroups_total (set : List (Option Str)) (fl : List Nat) (i : Nat) (w : Writer) :
    writeGroups set fl i w ≠ .panic := by
  fun_induction writeGroups set fl i w <;> simp_all

@[local simp] theorem writeSetBody_total (set : List (Option Str)) (w : Writer) : writeSetBody set w ≠ .panic := by
  fun_cases writeSetBody set w <;> simp_all

/-- The model does transcribe the `set[0]` panic: an empty set makes `writeSet` panic. -/
theorem writeSet_nil (w : Writer) : writeSet w [] = .panic := rfl

theorem writeSet_total (w : Writer) (set : List (Option Str)) (h : set ≠ []) : writeSet w set ≠ .panic := by
  fun_cases writeSet w set <;> simp_all

theorem writeSets_total (sets : List (List (Option Str))) (w : Writer) (h : ∀ s ∈ sets, s ≠ []) :
    writeSets sets w ≠ .panic := by
  fun_induction writeSets sets w <;> simp_all [writeSet_total]

@[local simp] theorem writeTable_total (t : List (Option Str)) (w : Writer) : writeTable t w ≠ .panic := by
  fun_induction writeTable t w <;> simp_all

theorem aset_build_total (f : ASetFile) (h : ∀ s ∈ f.sets, s ≠ []) : Aset.build f ≠ .panic := by
  fun_cases Aset.build f <;> try simp
  -- left: one goal per call, which returned `panic`; `writeSets` is the one that needs `h`
  · exact writeSets_total _ _ h ‹_›
  all_goals exact absurd ‹_ = Res.panic› (by simp)

end aset

section asset
open Asset

@[local simp] theorem writeBytesR_total (w : Writer) (v : Bytes) : writeBytesR w v ≠ .panic := by
  have := Writer.writeBytes_ne_panic w v
  fun_cases writeBytesR w v <;> simp_all

@[local simp] theorem writeFlagStr_total (w : Writer) (v : Option Str) : writeFlagStr w v ≠ .panic := by
  unfold writeFlagStr; split <;> simp

@[local simp] theorem writeColor_total (c : Bytes) (w : Writer) : writeColor c w ≠ .panic := by
  unfold writeColor; simp

@[local simp] theorem writeField_total (s : AssetSpec) (w : Writer) (i : Nat) : writeField s w i ≠ .panic := by
  fun_cases writeField s w i <;> simp_all

@[local simp] theorem writeFields_total (s : AssetSpec) (is : List Nat) (w : Writer) :
    writeFields s is w ≠ .panic := by
  fun_induction writeFields s is w <;> simp_all

@[local simp] theorem append_total (s : AssetSpec) (a : BinArchive) : Asset.append s a ≠ .panic := by
  fun_cases Asset.append s a <;> simp_all

@[local simp] theorem appendAll_total (ss : List AssetSpec) (a : BinArchive) : appendAll ss a ≠ .panic := by
  fun_induction appendAll ss a <;> simp_all

@[local simp] theorem asset_build_total (b : AssetBinary) : Asset.build b ≠ .panic := by
  fun_cases Asset.build b <;> simp_all

end asset

section pack
open Fe9Arc

theorem nameLoop_total (c : Codec) (hl : Nat) (m : Files) (rt : Bytes) (addrs : List Nat) :
    nameLoop c hl m rt addrs ≠ .panic := by
  fun_induction nameLoop c hl m rt addrs <;> simp_all

/-- The name loop produces one address per file: `text_addresses[i]` (fe9_arc.rs:95) is in range
for every `i < contents.len()` — the model's `getD` default is never used. -/
theorem nameLoop_length (c : Codec) (hl : Nat) (m : Files) (rt : Bytes) (addrs : List Nat) :
    ∀ {rt' addrs'}, nameLoop c hl m rt addrs = .ok (rt', addrs') →
      addrs'.length = addrs.length + m.length := by
  fun_induction nameLoop c hl m rt addrs
  · intro rt' addrs' h
    simp only [Res.ok.injEq, Prod.mk.injEq] at h
    rw [← h.2]; simp
  · intro rt' addrs' h; simp at h
  · rename_i ih
    intro rt' addrs' h
    rw [ih h]; simp; omega

/-- The file loop produces one `(address, size)` pair per file: `file_info[i]` (fe9_arc.rs:96-97)
is in range. -/
theorem fileLoop_length (base : Nat) (m : Files) (next : Nat) (rf : Bytes) (info : List (Nat × Nat)) :
    (fileLoop base m next rf info).2.2.length = info.length + m.length := by
  fun_induction fileLoop base m next rf info
  · simp
  · rename_i ih
    rw [ih]; simp +zetaDelta only [List.length_append, List.length_cons, List.length_nil]; omega

theorem pack_serialize_total (c : Codec) (m : Files) : Fe9Arc.serialize c m ≠ .panic := by
  unfold Fe9Arc.serialize
  simp only []  -- puts the values of the `let`s in, so that `split` finds the `match` on `nameLoop`
  split
  · simp
  · simp
  · exact absurd ‹_› (nameLoop_total _ _ _ _ _)

end pack

end Mila.ParsersLemmas
