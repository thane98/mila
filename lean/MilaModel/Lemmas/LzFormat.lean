/-
Both formats behind the dispatching wrappers `CompressionFormat::{compress, decompress}`
(compression_format.rs:6-32): what the loop invariant, the decoder simulation and the token count
give for `Format.compress` and `Format.decompress` (C08–C10, and the LZ instance of the filesystem
model).
-/
import MilaModel.Lemmas.LzCompress10
import MilaModel.Lemmas.LzCompress13
import MilaModel.Lemmas.LzBound

namespace Mila.Lz
open Mila.Spec.Lz

theorem format_compress_ok (f : Format) (x : BA) : ∃ out, f.compress x = .ok out := by
  cases f with
  | lz10 => exact (compress10_post x).ok
  | lz13 =>
    obtain ⟨_, _, _, _, _, _, hp⟩ := compress13_post x
    exact hp.ok

theorem format_roundtrip (f : Format) (x : BA) (hx : x.size < 2 ^ 24) :
    ∃ out, f.compress x = .ok out ∧ f.decompress out.toList = .ok x := by
  cases f with
  | lz10 =>
    obtain ⟨out, s, h1, h2, hd⟩ := post_roundtrip (pre := []) (compress10_post x) lenOk10 hx
    rw [List.nil_append] at h2
    rw [← h2] at hd
    exact ⟨out, h1, by simp [Format.decompress, decompress10, hd]⟩
  | lz13 =>
    obtain ⟨l0, l1, l2, _, _, hh, hp⟩ := compress13_post x
    rw [hh hx] at hp
    obtain ⟨out, s, h1, h2, hd⟩ := post_roundtrip (pre := [0x13, l0, l1, l2]) hp lenOk11
      (Nat.lt_trans hx (by decide))
    exact ⟨out, h1, by simp [Format.decompress, decompress13, h2, hd]⟩

theorem compress13_size_le (x : BA) :
    ∃ out, (compress13 x).1 = .ok out ∧
      out.size ≤ (if x.size = 0 then 12 else 8) + x.size + (x.size + 7) / 8 := by
  obtain ⟨_, _, _, hdr, hh, _, hp⟩ := compress13_post x
  rw [← hh]
  exact post_size_le hp

end Mila.Lz
