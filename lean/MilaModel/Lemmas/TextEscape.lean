/-
Lemmas for C07 about `str::replace` as modelled by `TextArchive.strReplace`, and about the
specification's `escape` / `unescape`.
-/
import MilaModel.Model.TextArchive
import MilaModel.Spec.TextMap

namespace Mila.Lemmas.TextEscape
open Mila.TextArchive
open Mila.Spec.TextMap (NoSeq)

theorem nl_ne_bs : Spec.TextMap.newline ≠ Spec.TextMap.backslash := by decide
theorem nl_ne_n : Spec.TextMap.newline ≠ Spec.TextMap.letterN := by decide
theorem bs_ne_n : Spec.TextMap.backslash ≠ Spec.TextMap.letterN := by decide
theorem bs_ne_nl : Spec.TextMap.backslash ≠ Spec.TextMap.newline := by decide

theorem go_zero_cons {α : Type} [DecidableEq α] (pat rep : List α) (x : α) (xs : List α) :
    strReplaceGo pat rep 0 (x :: xs) =
      if pat.isPrefixOf (x :: xs) then rep ++ strReplaceGo pat rep (pat.length - 1) xs
      else x :: strReplaceGo pat rep 0 xs := by
  rw [strReplaceGo]

theorem go_succ_cons {α : Type} [DecidableEq α] (pat rep : List α) (s : Nat) (x : α) (xs : List α) :
    strReplaceGo pat rep (s + 1) (x :: xs) = strReplaceGo pat rep s xs := by
  rw [strReplaceGo]

theorem strReplace_pair {α : Type} [DecidableEq α] (a b : α) (rep : List α) (x y : α) (rest : List α) :
    strReplace [a, b] rep (x :: y :: rest) =
      if x = a ∧ y = b then rep ++ strReplace [a, b] rep rest
      else x :: strReplace [a, b] rep (y :: rest) := by
  simp only [strReplace, go_zero_cons, List.isPrefixOf, Bool.and_true, Bool.and_eq_true, beq_iff_eq,
    List.length_cons, List.length_nil, go_succ_cons, eq_comm (a := a), eq_comm (a := b)]

theorem strReplace_one {α : Type} [DecidableEq α] (a : α) (rep : List α) (x : α) (rest : List α) :
    strReplace [a] rep (x :: rest) =
      if x = a then rep ++ strReplace [a] rep rest else x :: strReplace [a] rep rest := by
  simp only [strReplace, go_zero_cons, List.isPrefixOf, Bool.and_true, beq_iff_eq, eq_comm (a := a)]
  rfl

/-- The model's `message.replace("\\n", "\n")` is the specification's `unescape` (the model and
the specification each name the same three bytes). -/
theorem unescape_eq (m : Bytes) : TextArchive.unescape m = Spec.TextMap.unescape m := by
  show strReplace [Spec.TextMap.backslash, Spec.TextMap.letterN] [Spec.TextMap.newline] m = _
  fun_induction Spec.TextMap.unescape m with
  | case1 => rfl
  | case2 b => simp [strReplace, strReplaceGo, List.isPrefixOf]
  | case3 b b' rest h ih => rw [strReplace_pair, if_pos h, ih]; rfl
  | case4 b b' rest h ih => rw [strReplace_pair, if_neg h, ih]

/-- The model's `value.replace('\n', "\\n")` is the specification's `escape`. -/
theorem escape_eq (m : Bytes) : TextArchive.escape m = Spec.TextMap.escape m := by
  show strReplace [Spec.TextMap.newline] [Spec.TextMap.backslash, Spec.TextMap.letterN] m = _
  induction m with
  | nil => rfl
  | cons b tl ih => rw [strReplace_one, ih, Spec.TextMap.escape]; split <;> rfl

theorem noSeq_cons (b : UInt8) (l : Bytes) :
    NoSeq (b :: l) ↔
      (∀ b', l.head? = some b' → ¬ (b = Spec.TextMap.backslash ∧ b' = Spec.TextMap.letterN)) ∧ NoSeq l := by
  cases l with
  | nil => simp [NoSeq]
  | cons x xs => simp [NoSeq]

theorem unescape_head (b : UInt8) (l : Bytes) :
    (Spec.TextMap.unescape (b :: l)).head? = some b ∨
      (Spec.TextMap.unescape (b :: l)).head? = some Spec.TextMap.newline := by
  cases l with
  | nil => simp [Spec.TextMap.unescape]
  | cons x xs =>
    simp only [Spec.TextMap.unescape]
    split <;> simp

/-- A stored message never contains an escape sequence. -/
theorem noSeq_unescape (m : Bytes) : NoSeq (Spec.TextMap.unescape m) := by
  fun_induction Spec.TextMap.unescape m with
  | case1 => trivial
  | case2 b => trivial
  | case3 b b' rest h ih => exact (noSeq_cons _ _).mpr ⟨fun x _ hx => nl_ne_bs hx.1, ih⟩
  | case4 b b' rest h ih =>
    refine (noSeq_cons _ _).mpr ⟨fun x hx hbx => ?_, ih⟩
    -- the byte stored after `b` is `b'` itself or a newline
    rcases unescape_head b' rest with h1 | h1 <;> rw [h1] at hx <;> cases hx
    · exact h hbx
    · exact nl_ne_n hbx.2

theorem unescape_escape (m : Bytes) (h : NoSeq m) :
    Spec.TextMap.unescape (Spec.TextMap.escape m) = m := by
  fun_induction NoSeq m with
  | case1 => rfl
  | case2 b => rw [Spec.TextMap.escape]; split <;> simp [Spec.TextMap.escape, Spec.TextMap.unescape, *]
  | case3 b b' rest ih =>
    have ih := ih h.2
    rw [Spec.TextMap.escape]
    split
    · rw [Spec.TextMap.unescape, if_pos ⟨rfl, rfl⟩, ih, ‹b = Spec.TextMap.newline›]
    · -- the escaped tail starts with `b'` or with a backslash, so no sequence starts at `b`
      rw [Spec.TextMap.escape] at ih ⊢
      split at ih <;> rename_i hb'
      · rw [if_pos hb', Spec.TextMap.unescape, if_neg (bs_ne_n ·.2), ih]
      · rw [if_neg hb', Spec.TextMap.unescape, if_neg h.1, ih]

end Mila.Lemmas.TextEscape
