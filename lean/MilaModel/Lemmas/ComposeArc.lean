/-
C01 → C16.  The arc layout (`Spec.Arc.ConformsArcAt`) looks only at the data bytes and at membership
in the string cells and in the `(address, label)` pairs, so it carries over from the content `K` of
a conforming bin image to the archive `Ser.parse_conforming` returns for that image.  One trap:
`Spec.Image.Conforms` leaves the bytes of `K.data` inside annotated cells unconstrained (file
offsets / targets are stored there), while the arc reader reads the image's data block as it is;
hence the hypothesis `hraw`, that `K.data` records the stored words too.
-/
import MilaModel.Lemmas.SerRound
import MilaModel.Lemmas.Arc

namespace Mila.Compose
open Mila Mila.BinArchive Mila.Ser
open Mila.Spec.Arc (ConformsArcAt ConformsArc)

/-- What arc extraction sees of a bin-archive content: data, string cells, `(address, label)` pairs. -/
def arcOf (K : Spec.Image.Content) : Spec.Arc.Content :=
  ⟨K.data, K.strings, K.labels.flatMap (fun p => p.2.map (fun l => (p.1, l)))⟩

/-- The content of an archive that arc extraction looks at is this view of its bin-archive content. -/
theorem contentOf_eq_arcOf (a : BinArchive) : ArcLemmas.contentOf a = arcOf (contentOf a) := rfl

theorem conformsArcAt_congr {K K' : Spec.Arc.Content} (hd : K'.data = K.data)
    (hs : K'.strings.Perm K.strings) (hl : ∀ q, q ∈ K'.labels ↔ q ∈ K.labels)
    {files : Spec.Arc.Files} {padded : Bool} {ca ia : Nat}
    (h : ConformsArcAt K files padded ca ia) : ConformsArcAt K' files padded ca ia := by
  obtain ⟨d', s', l'⟩ := K'
  simp only at hd hs hl
  subst hd
  obtain ⟨hsf, hcount, hinfo, hhead, hn, hfiles⟩ := h
  refine ⟨?_, ?_, ?_, hhead, hn, ?_⟩
  · exact ((hs.map (fun q : Nat × Bytes => q.1)).nodup_iff).mpr hsf
  · exact ⟨(hl _).mpr hcount.1, fun q hq e => hcount.2 q ((hl q).mp hq) e⟩
  · exact ⟨(hl _).mpr hinfo.1, fun q hq e => hinfo.2 q ((hl q).mp hq) e⟩
  · intro i hi
    obtain ⟨off, ⟨r1, r2, r3, r4⟩, hb⟩ := ArcLemmas.fileOk_iff.mp (hfiles i hi)
    exact ArcLemmas.fileOk_iff.mpr ⟨off, ⟨hs.mem_iff.mpr r1, r2, r3, r4⟩, hb⟩

section
variable {c : Codec} {D : Str → Prop} {e : Endian} {f : Bytes} {K : Spec.Image.Content}

theorem parsed_data_eq (ctx : Ctx c D e f K) {b : BinArchive} (hp : Parsed e f K b)
    (hraw : ∀ i, K.covered i → f[0x20 + i]? = K.data[i]?) : b.data = K.data := by
  rw [hp.data]
  apply List.ext_getElem?
  intro i
  by_cases hi : i < K.data.length
  · rw [getElem?_slice, if_pos hi]
    by_cases hc : K.covered i
    · exact hraw i hc
    · exact ctx.conf.dataEq i hi hc
  · rw [List.getElem?_eq_none (by rw [length_slice _ _ _ ctx.data_fits]; omega),
      List.getElem?_eq_none (by omega)]

theorem conformsArc_parsed (ctx : Ctx c D e f K) {b : BinArchive} (hp : Parsed e f K b)
    (hraw : ∀ i, K.covered i → f[0x20 + i]? = K.data[i]?)
    {files : Spec.Arc.Files} {padded : Bool} (h : ConformsArc (arcOf K) files padded) :
    ConformsArc (ArcLemmas.contentOf b) files padded := by
  obtain ⟨ca, ia, h⟩ := h
  refine ⟨ca, ia, conformsArcAt_congr (K := arcOf K) ?_ ?_ ?_ h⟩
  · exact parsed_data_eq ctx hp hraw
  · exact hp.text
  · rintro ⟨x, l⟩
    show (x, l) ∈ b.labels.flatMap _ ↔ (x, l) ∈ K.labels.flatMap _
    rw [ArcLemmas.mem_flat_labels _ hp.labelKeys, ArcLemmas.mem_flat_labels _ ctx.wf.labelKeys, hp.labels x]
    rfl

/-- `hraw` holds when `K.data` is given as the image's data block. -/
theorem hraw_of_slice (wf : K.WF) (h : K.data = slice f 0x20 K.data.length) :
    ∀ i, K.covered i → f[0x20 + i]? = K.data[i]? := by
  rintro i ⟨x, hx, _, h2⟩
  have hin := wf.inside x hx
  have : K.data[i]? = (slice f 0x20 K.data.length)[i]? := congrArg (·[i]?) h
  rw [this, getElem?_slice, if_pos (by omega)]

end

end Mila.Compose
