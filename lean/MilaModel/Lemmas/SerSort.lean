/-
Hash maps and their iteration order, for C01/C02.  A stable sort whose comparator is
a total preorder and antisymmetric on the elements present yields the same list for every
permutation of its input; the orders used by `serialize` (byte strings, label buckets) are such
comparators, and they are the specification's.
-/
import MilaModel.Model.BinArchive
import MilaModel.Spec.ArchiveImage
import MilaModel.Lemmas.UMap

namespace Mila.Ser
open Mila.BinArchive
open Spec.Image (lexLe strLe bucketLe byAddr)

structure IsPreorder {α : Type} (le : α → α → Bool) : Prop where
  trans : ∀ a b c, le a b = true → le b c = true → le a c = true
  total : ∀ a b, (le a b || le b a) = true

theorem sorted_mergeSort {α : Type} {le : α → α → Bool} (h : IsPreorder le) (l : List α) :
    (l.mergeSort le).Pairwise (fun a b => le a b = true) :=
  List.pairwise_mergeSort h.trans h.total l

theorem eq_of_sorted_perm {α : Type} {le : α → α → Bool} {l₁ l₂ : List α}
    (anti : ∀ a b, a ∈ l₁ → b ∈ l₁ → le a b = true → le b a = true → a = b)
    (s₁ : l₁.Pairwise (fun a b => le a b = true)) (s₂ : l₂.Pairwise (fun a b => le a b = true))
    (p : l₁.Perm l₂) : l₁ = l₂ :=
  List.Perm.eq_of_pairwise (le := fun a b => le a b = true)
    (fun a b ha hb => anti a b ha (p.mem_iff.mpr hb)) s₁ s₂ p

theorem mergeSort_eq_of_perm {α : Type} {le : α → α → Bool} (h : IsPreorder le) {l₁ l₂ : List α}
    (anti : ∀ a b, a ∈ l₁ → b ∈ l₁ → le a b = true → le b a = true → a = b)
    (p : l₁.Perm l₂) : l₁.mergeSort le = l₂.mergeSort le := by
  apply eq_of_sorted_perm _ (sorted_mergeSort h _) (sorted_mergeSort h _)
  · exact ((List.mergeSort_perm l₁ le).trans p).trans (List.mergeSort_perm l₂ le).symm
  · intro a b ha hb
    exact anti a b (List.mem_mergeSort.mp ha) (List.mem_mergeSort.mp hb)

theorem filter_mergeSort {α : Type} {le : α → α → Bool} (h : IsPreorder le) (p : α → Bool) (l : List α)
    (anti : ∀ a b, a ∈ l → b ∈ l → le a b = true → le b a = true → a = b) :
    (l.mergeSort le).filter p = (l.filter p).mergeSort le := by
  apply eq_of_sorted_perm _ ((sorted_mergeSort h _).filter p) (sorted_mergeSort h _)
  · exact ((List.mergeSort_perm l le).filter p).trans (List.mergeSort_perm _ le).symm
  · intro a b ha hb
    exact anti a b (List.mem_mergeSort.mp (List.mem_filter.mp ha).1)
      (List.mem_mergeSort.mp (List.mem_filter.mp hb).1)

theorem bySource_preorder {β : Type} : IsPreorder (bySource (β := β)) where
  trans := by intro a b c; simp [bySource]; exact Nat.le_trans
  total := by intro a b; simp [bySource]; exact Nat.le_total _ _

theorem bySource_anti {β : Type} {l : List (Nat × β)} (nd : (l.map (·.1)).Nodup) :
    ∀ a b, a ∈ l → b ∈ l → bySource a b = true → bySource b a = true → a = b := by
  intro a b ha hb h1 h2
  simp [bySource] at h1 h2
  exact UMap.eq_of_key_eq nd ha hb (Nat.le_antisymm h1 h2)

section lex
variable {α : Type} [DecidableEq α] {le : α → α → Bool}

theorem lexLe_refl (l : List α) : lexLe le l l = true := by
  induction l with
  | nil => rfl
  | cons x xs ih => simp [lexLe, ih]

theorem lexLe_total (tot : ∀ a b, (le a b || le b a) = true) :
    ∀ l₁ l₂ : List α, (lexLe le l₁ l₂ || lexLe le l₂ l₁) = true := by
  intro l₁
  induction l₁ with
  | nil => intro l₂; simp [lexLe]
  | cons x xs ih =>
    intro l₂
    cases l₂ with
    | nil => simp [lexLe]
    | cons y ys =>
      by_cases hxy : x = y
      · subst hxy; simpa [lexLe] using ih ys
      · have hyx : ¬ y = x := fun h => hxy h.symm
        simpa [lexLe, hxy, hyx] using tot x y

theorem lexLe_antisymm (anti : ∀ a b, le a b = true → le b a = true → a = b) :
    ∀ l₁ l₂ : List α, lexLe le l₁ l₂ = true → lexLe le l₂ l₁ = true → l₁ = l₂ := by
  intro l₁
  induction l₁ with
  | nil => intro l₂; cases l₂ <;> simp [lexLe]
  | cons x xs ih =>
    intro l₂
    cases l₂ with
    | nil => simp [lexLe]
    | cons y ys =>
      by_cases hxy : x = y
      · subst hxy; simp [lexLe]; exact ih ys
      · have hyx : ¬ y = x := fun h => hxy h.symm
        simp only [lexLe, if_neg hxy, if_neg hyx]
        intro h1 h2; exact absurd (anti x y h1 h2) hxy

theorem lexLe_trans (tr : ∀ a b c, le a b = true → le b c = true → le a c = true)
    (anti : ∀ a b, le a b = true → le b a = true → a = b) :
    ∀ l₁ l₂ l₃ : List α, lexLe le l₁ l₂ = true → lexLe le l₂ l₃ = true → lexLe le l₁ l₃ = true := by
  intro l₁
  induction l₁ with
  | nil => intro l₂ l₃ _ _; simp [lexLe]
  | cons x xs ih =>
    intro l₂ l₃
    cases l₂ with
    | nil => simp [lexLe]
    | cons y ys =>
      cases l₃ with
      | nil => simp [lexLe]
      | cons z zs =>
        by_cases hxy : x = y
        · subst hxy
          by_cases hxz : x = z
          · subst hxz; simp only [lexLe, if_true]; exact ih ys zs
          · simp only [lexLe, if_true, if_neg hxz]; intro _ h; exact h
        · by_cases hyz : y = z
          · subst hyz; simp only [lexLe, if_true, if_neg hxy]; intro h _; exact h
          · by_cases hxz : x = z
            · subst hxz
              have hyx : ¬ y = x := fun h => hxy h.symm
              simp only [lexLe, if_neg hxy, if_neg hyx, if_true]
              intro h1 h2; exact absurd (anti x y h1 h2) hxy
            · simp only [lexLe, if_neg hxy, if_neg hyz, if_neg hxz]; exact tr x y z

end lex

theorem strLe_total (a b : Bytes) : (strLe a b || strLe b a) = true :=
  lexLe_total (fun x y => by simp; exact UInt8.le_total x y) a b

theorem strLe_antisymm (a b : Bytes) : strLe a b = true → strLe b a = true → a = b :=
  lexLe_antisymm (fun x y h1 h2 => by simp at h1 h2; exact UInt8.le_antisymm h1 h2) a b

theorem strLe_trans (a b c : Bytes) : strLe a b = true → strLe b c = true → strLe a c = true :=
  lexLe_trans (fun x y z h1 h2 => by simp at h1 h2 ⊢; exact UInt8.le_trans h1 h2)
    (fun x y h1 h2 => by simp at h1 h2; exact UInt8.le_antisymm h1 h2) a b c

theorem strLe_preorder : IsPreorder strLe := ⟨strLe_trans, strLe_total⟩

theorem bucketLe_iff (a b : Nat × List Bytes) : bucketLe a b = true ↔
    (a.2 = b.2 ∧ a.1 ≤ b.1) ∨ (a.2 ≠ b.2 ∧ lexLe strLe a.2 b.2 = true) := by
  unfold bucketLe
  by_cases h : a.2 = b.2 <;> simp [h]

theorem bucketLe_preorder : IsPreorder bucketLe where
  total := by
    intro a b
    rw [Bool.or_eq_true, bucketLe_iff, bucketLe_iff]
    by_cases h : a.2 = b.2
    · have h' := h.symm
      rcases Nat.le_total a.1 b.1 with hl | hl
      · exact Or.inl (Or.inl ⟨h, hl⟩)
      · exact Or.inr (Or.inl ⟨h', hl⟩)
    · have h' : b.2 ≠ a.2 := fun e => h e.symm
      have := lexLe_total strLe_total a.2 b.2
      rw [Bool.or_eq_true] at this
      rcases this with t | t
      · exact Or.inl (Or.inr ⟨h, t⟩)
      · exact Or.inr (Or.inr ⟨h', t⟩)
  trans := by
    intro a b c
    rw [bucketLe_iff, bucketLe_iff, bucketLe_iff]
    rintro (⟨e1, l1⟩ | ⟨n1, l1⟩) (⟨e2, l2⟩ | ⟨n2, l2⟩)
    · exact Or.inl ⟨e1.trans e2, Nat.le_trans l1 l2⟩
    · exact Or.inr ⟨fun e => n2 (e1 ▸ e), e1 ▸ l2⟩
    · exact Or.inr ⟨fun e => n1 (e.trans e2.symm), e2 ▸ l1⟩
    · by_cases hac : a.2 = c.2
      · rw [← hac] at l2
        exact absurd (lexLe_antisymm strLe_antisymm _ _ l1 l2) n1
      · exact Or.inr ⟨hac, lexLe_trans strLe_trans strLe_antisymm _ _ _ l1 l2⟩

/-- Antisymmetric because equal name lists are ordered by address: the tie-break of the big-endian
label sort (D2). -/
theorem bucketLe_anti (a b : Nat × List Bytes) (h1 : bucketLe a b = true) (h2 : bucketLe b a = true) :
    a = b := by
  rw [bucketLe_iff] at h1 h2
  rcases h1 with ⟨e1, l1⟩ | ⟨n1, l1⟩ <;> rcases h2 with ⟨e2, l2⟩ | ⟨n2, l2⟩
  · exact Prod.ext (Nat.le_antisymm l1 l2) e1
  · exact absurd e1.symm n2
  · exact absurd e2.symm n1
  · exact absurd (lexLe_antisymm strLe_antisymm _ _ l1 l2) n1

theorem bytesLe_eq : ∀ a b : Bytes, bytesLe a b = strLe a b := by
  intro a
  induction a with
  | nil => intro b; simp [bytesLe, strLe, lexLe]
  | cons x xs ih =>
    intro b
    cases b with
    | nil => simp [bytesLe, strLe, lexLe]
    | cons y ys =>
      simp only [bytesLe, strLe, lexLe]
      by_cases hxy : x = y
      · subst hxy; simp [ih ys, strLe, UInt8.lt_irrefl]
      · simp only [hxy, if_false]
        by_cases hlt : x < y
        · simp [hlt, UInt8.le_of_lt hlt]
        · have hyx : y < x := by
            rcases UInt8.lt_or_lt_of_ne hxy with h | h
            · exact absurd h hlt
            · exact h
          simp [hlt, hyx, UInt8.not_le.mpr hyx]

theorem bucketCmpLe_eq : ∀ a b : List Str, bucketCmpLe a b = lexLe strLe a b := by
  intro a
  induction a with
  | nil => intro b; simp [bucketCmpLe, lexLe]
  | cons x xs ih =>
    intro b
    cases b with
    | nil => simp [bucketCmpLe, lexLe]
    | cons y ys => simp [bucketCmpLe, lexLe, ih ys, bytesLe_eq]

theorem labelLe_big : labelLe .big = bucketLe := by
  funext x y; simp [labelLe, bucketLe, bucketCmpLe_eq]

theorem labelLe_little : labelLe .little = byAddr := by
  funext x y; simp [labelLe, byAddr]

theorem bySource_eq_byAddr {β : Type} : bySource (β := β) = byAddr := by
  funext x y; simp [bySource, byAddr]

theorem labelLe_preorder (e : Endian) : IsPreorder (labelLe e) := by
  cases e
  · rw [labelLe_little, ← bySource_eq_byAddr]; exact bySource_preorder
  · rw [labelLe_big]; exact bucketLe_preorder

theorem labelLe_anti (e : Endian) {l : List (Nat × List Str)} (nd : (l.map (·.1)).Nodup) :
    ∀ a b, a ∈ l → b ∈ l → labelLe e a b = true → labelLe e b a = true → a = b := by
  cases e
  · rw [labelLe_little, ← bySource_eq_byAddr]; exact bySource_anti nd
  · rw [labelLe_big]; intro a b _ _; exact bucketLe_anti a b

end Mila.Ser
