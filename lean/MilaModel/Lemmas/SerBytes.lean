/-
Byte-level lemmas for C01/C02: 32-bit words (encode/decode, position in a concatenation),
patching words into a data block, NUL-terminated strings inside a text section.
-/
import MilaModel.Model.BinArchive
import MilaModel.Spec.ArchiveImage
import MilaModel.Lemmas.Bytes
import MilaModel.Lemmas.Slice

namespace Mila.Ser
open Spec.Image (wordAt StrAt words patchWords)

theorem enc4_mod (e : Endian) (v : Nat) : e.enc 4 (v % 2 ^ 32) = e.enc 4 v :=
  enc_mod e 4 v

theorem wordAt_eq_some {e : Endian} {f : Bytes} {pos v : Nat} :
    wordAt e f pos = some v ↔ pos + 4 ≤ f.length ∧ e.dec ((f.drop pos).take 4) = v := by
  unfold wordAt
  split <;> simp [*]

theorem wordAt_lt {e : Endian} {f : Bytes} {pos v : Nat} (h : wordAt e f pos = some v) : v < 2 ^ 32 := by
  obtain ⟨hl, rfl⟩ := wordAt_eq_some.mp h
  exact dec_lt_pow (k := 4) e (List.length_take_le ..)

theorem wordAt_some_le {e : Endian} {f : Bytes} {pos v : Nat} (h : wordAt e f pos = some v) :
    pos + 4 ≤ f.length :=
  (wordAt_eq_some.mp h).1

theorem wordAt_congr (e : Endian) {f g : Bytes} {p q : Nat}
    (hf : p + 4 ≤ f.length) (hg : q + 4 ≤ g.length) (h : ∀ j, j < 4 → f[p + j]? = g[q + j]?) :
    wordAt e f p = wordAt e g q := by
  unfold wordAt
  rw [if_pos hf, if_pos hg]
  congr 2
  apply List.ext_getElem?
  intro j
  simp only [List.getElem?_take, List.getElem?_drop]
  split
  · exact h j ‹_›
  · rfl

theorem wordAt_append_left (e : Endian) (a b : Bytes) (pos : Nat) (h : pos + 4 ≤ a.length) :
    wordAt e (a ++ b) pos = wordAt e a pos := by
  apply wordAt_congr e (by rw [List.length_append]; exact Nat.le_trans h (Nat.le_add_right _ _)) h
  intro j hj
  rw [List.getElem?_append, if_pos (Nat.lt_of_lt_of_le (Nat.add_lt_add_left hj pos) h)]

theorem wordAt_append_right (e : Endian) {a : Bytes} {n : Nat} (h : a.length = n) (b : Bytes) (pos : Nat) :
    wordAt e (a ++ b) (n + pos) = wordAt e b pos := by
  subst h
  unfold wordAt
  rw [List.length_append, List.drop_append, Nat.add_sub_cancel_left,
    List.drop_eq_nil_of_le (Nat.le_add_right _ _), List.nil_append]
  simp only [Nat.add_assoc, Nat.add_le_add_iff_left]

theorem wordAt_enc (e : Endian) (v : Nat) (rest : Bytes) (h : v < 2 ^ 32) :
    wordAt e (e.enc 4 v ++ rest) 0 = some v := by
  unfold wordAt
  have hl := enc_length e 4 v
  rw [if_pos (by rw [Nat.zero_add, List.length_append, hl]; exact Nat.le_add_right 4 _)]
  have ht : List.take 4 (e.enc 4 v ++ rest) = e.enc 4 v := by
    rw [List.take_append, hl, Nat.sub_self, List.take_zero, List.append_nil]
    exact List.take_of_length_le (Nat.le_of_eq hl)
  rw [List.drop_zero, ht, dec_enc_of_lt (k := 4) e h]

theorem words_length (e : Endian) (l : List Nat) : (words e l).length = 4 * l.length := by
  induction l with
  | nil => rfl
  | cons x xs ih => simp_all [words, enc_length, Nat.mul_succ, Nat.add_comm]

theorem words_cons (e : Endian) (x : Nat) (xs : List Nat) : words e (x :: xs) = e.enc 4 x ++ words e xs := by
  simp [words]

theorem words_append (e : Endian) (l₁ l₂ : List Nat) : words e (l₁ ++ l₂) = words e l₁ ++ words e l₂ := by
  simp [words]

theorem wordAt_words (e : Endian) : ∀ (l : List Nat) (rest : Bytes) (i v : Nat), l[i]? = some v →
    v < 2 ^ 32 → wordAt e (words e l ++ rest) (4 * i) = some v := by
  intro l
  induction l with
  | nil => intro _ i v h; cases h
  | cons x xs ih =>
    intro rest i v h hv
    rw [words_cons, List.append_assoc]
    cases i with
    | zero => cases h; exact wordAt_enc e x _ hv
    | succ i =>
      rw [Nat.mul_succ, Nat.add_comm, wordAt_append_right e (enc_length e 4 x)]
      exact ih rest i v h hv

theorem u32s_eq_words (e : Endian) (l : List Nat) : BinArchive.u32s e l = words e l := by
  have : (fun v => e.enc 4 (v % 2 ^ 32)) = (fun v => e.enc 4 v) := by
    funext v; exact enc4_mod e v
  simp only [BinArchive.u32s, words, this]

/-- One patch step of `patchWords`. -/
def patch1 (e : Endian) (d : Bytes) (x v : Nat) : Bytes := d.take x ++ e.enc 4 v ++ d.drop (x + 4)

theorem patchWords_cons (e : Endian) (d : Bytes) (w : Nat × Nat) (ws : List (Nat × Nat)) :
    patchWords e d (w :: ws) = patchWords e (patch1 e d w.1 w.2) ws := rfl

theorem patchWords_append (e : Endian) (d : Bytes) (ws₁ ws₂ : List (Nat × Nat)) :
    patchWords e d (ws₁ ++ ws₂) = patchWords e (patchWords e d ws₁) ws₂ := by
  simp [patchWords, List.foldl_append]

theorem patch1_eq_patch (e : Endian) (d : Bytes) (x v : Nat) :
    patch1 e d x v = BinArchive.patch d x (e.enc 4 v) := by
  rw [patch1, BinArchive.patch, enc_length]

theorem length_patch1 (e : Endian) (d : Bytes) (x v : Nat) (h : x + 4 ≤ d.length) :
    (patch1 e d x v).length = d.length := by
  rw [patch1_eq_patch]
  exact BinArchive.length_patch _ _ _ (by rw [enc_length]; exact h)

theorem inside_patch1 (e : Endian) {d : Bytes} {w : Nat × Nat} {ws : List (Nat × Nat)}
    (h : ∀ w' ∈ w :: ws, w'.1 + 4 ≤ d.length) : ∀ w' ∈ ws, w'.1 + 4 ≤ (patch1 e d w.1 w.2).length := by
  intro w' hw'
  rw [length_patch1 e d w.1 w.2 (h w (List.mem_cons_self ..))]
  exact h w' (List.mem_cons_of_mem _ hw')

theorem getElem?_patch1 (e : Endian) (d : Bytes) (x v i : Nat) (h : x + 4 ≤ d.length) :
    (patch1 e d x v)[i]? = if x ≤ i ∧ i < x + 4 then (e.enc 4 v)[i - x]? else d[i]? := by
  rw [patch1_eq_patch, BinArchive.getElem?_patch _ _ _ _ (by rw [enc_length]; exact h), enc_length]

theorem getElem?_patch1_outside (e : Endian) (d : Bytes) (x v i : Nat) (h : x + 4 ≤ d.length)
    (ho : i < x ∨ x + 4 ≤ i) : (patch1 e d x v)[i]? = d[i]? := by
  rw [getElem?_patch1 e d x v i h, if_neg (by omega)]

theorem wordAt_patch1_self (e : Endian) (d : Bytes) (x v : Nat) (h : x + 4 ≤ d.length)
    (hv : v < 2 ^ 32) : wordAt e (patch1 e d x v) x = some v := by
  unfold patch1
  rw [List.append_assoc, ← wordAt_enc e v (d.drop (x + 4)) hv]
  exact wordAt_append_right e (List.length_take_of_le (Nat.le_of_add_right_le h)) _ 0

theorem wordAt_patch1_other (e : Endian) (d : Bytes) (x v y : Nat) (h : x + 4 ≤ d.length)
    (hy : y + 4 ≤ d.length) (hd : x + 4 ≤ y ∨ y + 4 ≤ x) :
    wordAt e (patch1 e d x v) y = wordAt e d y := by
  apply wordAt_congr e (by rw [length_patch1 e d x v h]; exact hy) hy
  intro j hj
  apply getElem?_patch1_outside e d x v _ h
  omega

theorem length_patchWords (e : Endian) : ∀ (ws : List (Nat × Nat)) (d : Bytes),
    (∀ w ∈ ws, w.1 + 4 ≤ d.length) → (patchWords e d ws).length = d.length := by
  intro ws
  induction ws with
  | nil => intro d _; rfl
  | cons w ws ih =>
    intro d h
    rw [patchWords_cons, ih _ (inside_patch1 e h), length_patch1 e d w.1 w.2 (h w (by simp))]

theorem getElem?_patchWords_outside (e : Endian) : ∀ (ws : List (Nat × Nat)) (d : Bytes) (i : Nat),
    (∀ w ∈ ws, w.1 + 4 ≤ d.length) → (∀ w ∈ ws, i < w.1 ∨ w.1 + 4 ≤ i) →
    (patchWords e d ws)[i]? = d[i]? := by
  intro ws
  induction ws with
  | nil => intro d i _ _; rfl
  | cons w ws ih =>
    intro d i h ho
    rw [patchWords_cons, ih _ i (inside_patch1 e h) (fun w' hw' => ho w' (List.mem_cons_of_mem _ hw'))]
    exact getElem?_patch1_outside e d w.1 w.2 i (h w (by simp)) (ho w (by simp))

theorem wordAt_patchWords_other (e : Endian) (ws : List (Nat × Nat)) (d : Bytes) (y : Nat)
    (h : ∀ w ∈ ws, w.1 + 4 ≤ d.length) (hy : y + 4 ≤ d.length)
    (hd : ∀ w ∈ ws, w.1 + 4 ≤ y ∨ y + 4 ≤ w.1) :
    wordAt e (patchWords e d ws) y = wordAt e d y := by
  apply wordAt_congr e (by rw [length_patchWords e ws d h]; exact hy) hy
  intro j hj
  apply getElem?_patchWords_outside e ws d _ h
  intro w hw
  have := hd w hw
  omega

theorem wordAt_patchWords_mem (e : Endian) : ∀ (ws : List (Nat × Nat)) (d : Bytes) (w : Nat × Nat),
    (∀ w ∈ ws, w.1 + 4 ≤ d.length) →
    ws.Pairwise (fun a b => a.1 + 4 ≤ b.1 ∨ b.1 + 4 ≤ a.1) → w ∈ ws → w.2 < 2 ^ 32 →
    wordAt e (patchWords e d ws) w.1 = some w.2 := by
  intro ws
  induction ws with
  | nil => intro _ _ _ _ h; cases h
  | cons w0 ws ih =>
    intro d w h hp hm hv
    rw [patchWords_cons]
    have hw0 := h w0 (by simp)
    have h' := inside_patch1 e h
    rw [List.pairwise_cons] at hp
    rcases List.mem_cons.mp hm with rfl | hm'
    · rw [wordAt_patchWords_other e ws _ w.1 h' (by rw [length_patch1 e d w.1 w.2 hw0]; exact hw0)
        (by intro w' hw'; have := hp.1 w' hw'; omega)]
      exact wordAt_patch1_self e d w.1 w.2 hw0 hv
    · exact ih _ w h' hp.2 hm' hv

theorem strAt_append_right {a : Bytes} {n : Nat} (h : a.length = n) (f : Bytes) (pos : Nat) (b : Bytes) :
    StrAt (a ++ f) (n + pos) b ↔ StrAt f pos b := by
  subst h
  unfold StrAt
  rw [List.drop_append, Nat.add_sub_cancel_left, List.drop_eq_nil_of_le (Nat.le_add_right _ _),
    List.nil_append]

theorem strAt_append_left {f : Bytes} {pos : Nat} {b : Bytes} (h : StrAt f pos b) (g : Bytes) :
    StrAt (f ++ g) pos b := by
  unfold StrAt at *
  have hl := congrArg List.length h
  rw [List.length_take, List.length_drop, List.length_append, List.length_singleton] at hl
  rw [List.drop_append_of_le_length (by omega),
    List.take_append_of_le_length (by rw [List.length_drop]; omega), h]

theorem strAt_zero (b rest : Bytes) : StrAt (b ++ 0 :: rest) 0 b := by
  unfold StrAt
  rw [List.drop_zero, show b ++ 0 :: rest = (b ++ [0]) ++ rest by simp, List.take_append]
  have hl : (b ++ [0]).length = b.length + 1 := by simp
  rw [hl, Nat.sub_self, List.take_zero, List.append_nil]
  exact List.take_of_length_le (Nat.le_of_eq hl)

theorem cstrBytes_of_strAt (b f : Bytes) (h0 : (0 : UInt8) ∉ b) (h : f.take (b.length + 1) = b ++ [0]) :
    BinArchive.cstrBytes f = some b := by
  rw [← List.take_append_drop (b.length + 1) f, h, List.append_assoc]
  exact BinArchive.cstrBytes_append b _ h0

end Mila.Ser
