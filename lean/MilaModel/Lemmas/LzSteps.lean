/-
The token sequence chosen by the compressor loops, abstracted from the byte emission:
`StepsTo x cap toks pos` — `toks` are the tokens the greedy loop emits for `x[0..pos)` with
look-ahead `cap` and window 4096.  Generic consequences: validity and expansion (C08, C09).
-/
import MilaModel.Model.Lz
import MilaModel.Spec.LzStream
import MilaModel.Lemmas.LzBasic
import MilaModel.Lemmas.LzSearch

namespace Mila.Lz
open Mila.Spec.Lz

/-- The call both compressors make at position `pos` (lz10.rs:35-42, lz13.rs:206-213). -/
def search (x : BA) (cap pos : Nat) : Res (Nat × Nat) :=
  occurrence x pos (min (x.size - pos) cap) (pos - min pos 0x1000) (min pos 0x1000)

inductive StepsTo (x : BA) (cap : Nat) : List Tok → Nat → Prop
  | nil : StepsTo x cap [] 0
  | lit (T : List Tok) (pos len disp : Nat) (h : pos < x.size) :
      StepsTo x cap T pos → search x cap pos = .ok (len, disp) → len < 3 →
      StepsTo x cap (T ++ [.lit x[pos]]) (pos + 1)
  | ref (T : List Tok) (pos len disp : Nat) (h : pos < x.size) :
      StepsTo x cap T pos → search x cap pos = .ok (len, disp) → 3 ≤ len →
      StepsTo x cap (T ++ [.ref len disp]) (pos + len)

theorem search_ok (x : BA) (cap pos : Nat) (h : pos < x.size) :
    ∃ len d, search x cap pos = .ok (len, d) := by
  obtain ⟨len, d, h1, _⟩ := occurrence_spec x pos (min (x.size - pos) cap) (pos - min pos 0x1000)
    (min pos 0x1000) (by omega) (by omega)
  exact ⟨len, d, h1⟩

theorem search_spec {x : BA} {cap pos len d : Nat} (h : pos < x.size)
    (hs : search x cap pos = .ok (len, d)) (h3 : 3 ≤ len) :
    1 ≤ d ∧ d ≤ pos ∧ d ≤ 4096 ∧ len ≤ cap ∧ pos + len ≤ x.size ∧
      ∀ j, j < len → x[pos - d + j]? = x[pos + j]? := by
  obtain ⟨len', d', h1, h2⟩ := occurrence_spec x pos (min (x.size - pos) cap) (pos - min pos 0x1000)
    (min pos 0x1000) (by omega) (by omega)
  rw [search, h1] at hs
  cases hs
  rcases h2 with h2 | ⟨a, b, c, e⟩
  · omega
  · refine ⟨Nat.le_of_succ_le a, Nat.le_trans b (Nat.min_le_left _ _),
      Nat.le_trans b (Nat.min_le_right _ _), Nat.le_trans c (Nat.min_le_right _ _),
      by have := Nat.le_trans c (Nat.min_le_left _ _); omega, fun j hj => ?_⟩
    have := (e j hj).2.2
    rwa [show pos - min pos 0x1000 + min pos 0x1000 = pos by omega] at this

/-- Copying `n` bytes from `d` back continues a prefix of `x` that repeats there. -/
theorem copyBack_extract (x : BA) (pos d n : Nat) (hd1 : 1 ≤ d) (hd : d ≤ pos) (hn : pos + n ≤ x.size)
    (hm : ∀ j, j < n → x[pos - d + j]? = x[pos + j]?) :
    copyBack (x.extract 0 pos) d n = x.extract 0 (pos + n) := by
  induction n generalizing pos with
  | zero => rfl
  | succ n ih =>
    have hlt : pos < x.size := by omega
    -- the byte copied first is the next byte of `x`
    have e : (x.extract 0 pos).getD ((x.extract 0 pos).size - d) 0 = x[pos] := by
      have h0 : x[pos - d]? = x[pos]? := hm 0 (by omega)
      rw [Array.getD_eq_getD_getElem?, Array.getElem?_extract, Array.size_extract,
        if_pos (by omega), Nat.zero_add, show min pos x.size - 0 - d = pos - d by omega, h0,
        Array.getElem?_eq_getElem hlt]
      rfl
    rw [copyBack, e, ← Array.extract_succ_right (Nat.succ_pos _) hlt,
      show pos + (n + 1) = pos + 1 + n by omega]
    refine ih (pos + 1) (by omega) (by omega) fun j hj => ?_
    have := hm (j + 1) (by omega)
    rwa [show pos + 1 - d + j = pos - d + (j + 1) by omega, Nat.add_assoc pos 1 j, Nat.add_comm 1 j]

theorem stepsTo_le {x : BA} {cap : Nat} {T : List Tok} {pos : Nat} (hs : StepsTo x cap T pos) :
    pos ≤ x.size := by
  cases hs with
  | nil => omega
  | lit T pos len disp h _ _ _ => omega
  | ref T pos len disp h _ hsr hlen => exact (search_spec h hsr hlen).2.2.2.2.1

theorem stepsTo_sound (x : BA) (cap : Nat) (ext : Bool)
    (hcap : ∀ len, 3 ≤ len → len ≤ cap → lenOk ext len) :
    ∀ (T : List Tok) (pos : Nat), StepsTo x cap T pos →
      ValidFrom ext 0 T ∧ expand T = x.extract 0 pos := by
  intro T pos hs
  induction hs with
  | nil => exact ⟨trivial, by simp [expand, expandFrom]⟩
  | lit T pos len disp h _ _ _ ih =>
    obtain ⟨v, e⟩ := ih
    refine ⟨?_, ?_⟩
    · rw [validFrom_append]; exact ⟨v, by simp [ValidFrom]⟩
    · rw [expand, expandFrom_append, ← expand, e, Array.extract_succ_right (Nat.succ_pos _) h]; rfl
  | ref T pos len disp h _ hsr hlen ih =>
    obtain ⟨v, e⟩ := ih
    have hts : tsize T = pos := by rw [← expand_size, e, Array.size_extract]; omega
    obtain ⟨d1, dle, d4, lle, hend, hm⟩ := search_spec h hsr hlen
    refine ⟨?_, ?_⟩
    · rw [validFrom_append]
      exact ⟨v, hcap len hlen lle, d1, d4, by omega, trivial⟩
    · rw [expand, expandFrom_append, ← expand, e]
      exact copyBack_extract x pos disp len d1 dle hend hm

end Mila.Lz
