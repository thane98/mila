/-
`LZ10CompressionFormat::compress` establishes `Post` (C08): the loop keeps `Inv`, the bytes pushed
for a reference are the token bytes of the specification, and the fixed 17-byte `out_buffer` is
never written past its end.
-/
import MilaModel.Lemmas.LzCompress

namespace Mila.Lz
open Mila.Spec.Lz

theorem lenOk10 (len : Nat) (h3 : 3 ≤ len) (h18 : len ≤ 0x12) : lenOk false len := ⟨h3, h18⟩

/-- The two bytes pushed for a reference (lz10.rs:51-55) are the spec's token bytes. -/
theorem emit10 (len disp : Nat) (h3 : 3 ≤ len) (h18 : len ≤ 18) (hd1 : 1 ≤ disp) (hd2 : disp ≤ 4096) :
    [andF0 (((len : Int) - 3) * 16) ||| and0F (((disp - 1 : Nat) : Int) / 256),
      andFF ((disp - 1 : Nat) : Int)] = tokBytes false (.ref len disp) := by
  rw [emit_tail _ (len - 3) disp (by omega) (by omega) hd1 hd2]
  simp [tokBytes]

theorem compress10Loop_post (x : BA) (hdr : Bytes) :
    ∀ (m : Nat) (buf outBuf : BA) (blocks read : Nat), x.size - read = m →
      Inv false 0x12 hdr x buf outBuf blocks read →
      Post false 0x12 hdr x (compress10Loop x buf outBuf blocks read) := by
  intro m
  induction m using Nat.strongRecOn with
  | _ m ih =>
    intro buf outBuf blocks read hm hinv
    rw [compress10Loop]
    by_cases hr : read < x.size
    · obtain ⟨b', o', k', len, disp, eb, eo, ek, hinv', hk', hs⟩ := loop_head hinv hr
      simp only [hr, ↓reduceDIte, eb, eo, ek, show occurrence x read _ _ _ = .ok (len, disp) from hs]
      -- the 17-byte `out_buffer` holds a flag byte and eight tokens of two bytes
      have hosz := inv_outBuf_size hinv' 2 (tokBytes_length_le false)
      by_cases hl : len < 3
      · rw [if_pos hl, if_neg (by omega)]
        exact ih (x.size - (read + 1)) (by omega) _ _ _ _ rfl (inv_lit hinv' hk' hr hs hl)
      · obtain ⟨hd1, _, hd2, hcap, hend, _⟩ := search_spec hr hs (by omega)
        rw [if_neg hl, if_neg (by omega)]
        have := inv_ref hinv' hk' hr hs (by omega)
        rw [← emit10 len disp (by omega) hcap hd1 hd2] at this
        exact ih (x.size - (read + len)) (by omega) _ _ _ _ rfl this
    · simp only [hr, ↓reduceDIte]
      exact inv_final hinv hr

theorem compress10_post (x : BA) :
    Post false 0x12 (header false x.size) x (compress10 x) := by
  unfold compress10
  apply compress10Loop_post x _ _ _ _ _ _ rfl
  apply inv_init
  simp [header, leBytes]
  congr 1
  omega

end Mila.Lz
