/-
C20, TPL: a conforming file is read as the packed CI8 textures (symbolic execution of `tplProg`,
the hand model of the `binread` derive reader, against `Spec.Tex.ConformsTpl`), with the read
high-water mark above every image-data and palette-data block; a wrong magic is rejected.
-/
import MilaModel.Lemmas.TexSpec
import MilaModel.Lemmas.PixelCi8

namespace Mila.Containers
open Prog Pixel

theorem pad_4 (h : Nat) : Spec.Tex.pad h 4 = (h + 3) / 4 * 4 := by
  simp [Spec.Tex.pad]

theorem pad_8 (w : Nat) : Spec.Tex.pad w 8 = Spec.Morton.pad8 w := by
  simp [Spec.Tex.pad, Spec.Morton.pad8]

theorem validTpl_spec {t : Spec.Tex.Tex} (h : Spec.Tex.validTpl t = true) :
    t.format = 9 ∧ tplImageBytes 9 t.height t.width = t.payload.size ∧ 0 < t.payload.size ∧
    0 < t.palette.size ∧
    tplDecodeImage 2 t.palette 9 t.height t.width t.payload = .ok (pixelsOfTpl t) := by
  simp only [Spec.Tex.validTpl, Bool.and_eq_true, decide_eq_true_eq, beq_iff_eq, pad_4, pad_8] at h
  obtain ⟨⟨⟨⟨⟨⟨⟨⟨⟨⟨⟨hfmt, hw1⟩, hh1⟩, _⟩, _⟩, hsz⟩, heven⟩, h2⟩, _⟩, hall⟩, _⟩, _⟩ := h
  have hidx : ∀ x y, x < t.width → y < t.height →
      (t.payload.getD (Spec.Morton.ci8Offset (Spec.Morton.pad8 t.width) x y) 0).toNat < t.palette.size / 2 := by
    intro x y hx hy
    rw [List.all_eq_true] at hall
    have h1 := hall y (List.mem_range.mpr hy)
    rw [List.all_eq_true] at h1
    have h2 := h1 x (List.mem_range.mpr hx)
    simpa using h2
  obtain ⟨out, hdec, _, _⟩ := ci8_decode t.palette t.payload t.width t.height (by omega) (by omega) heven hsz hidx
  have hp4 : 4 ≤ (t.height + 3) / 4 * 4 := by omega
  have hp8 : 8 ≤ Spec.Morton.pad8 t.width := by unfold Spec.Morton.pad8; omega
  refine ⟨hfmt, ?_, ?_, by omega, ?_⟩
  · simp only [tplImageBytes, tplBlockDims]
    rw [align_4, align_8, hsz]
  · rw [hsz]; exact Nat.mul_pos (by omega) (by omega)
  · simp [pixelsOfTpl, hdec]

/-- `FilePtr32::parse`: the target is parsed at the pointer, then the cursor returns to just after
the pointer field. -/
theorem filePtr32_run {α β : Type} (inner : Prog α) (k : α → Prog β) (f : Buf) (o : Nat)
    (ns : List Bytes) (hi : Nat) {a : α} {o1 : Nat} {ns1 : List Bytes} {hi1 : Nat} (hfit : o + 4 ≤ f.size)
    (h : run inner f ⟨f.beN o 4, ns, max hi (o + 4)⟩ = .ok (a, ⟨o1, ns1, hi1⟩)) :
    run (filePtr32 inner >>= k) f ⟨o, ns, hi⟩ = run (k a) f ⟨o + 4, ns1, hi1⟩ := by
  simp only [filePtr32, bind_assoc, pure_eq, ret_bind]
  rw [run_u32be _ _ _ _ _ hfit, run_position, run_seekStart, run_skip, Nat.zero_add, run_bind_ok h,
    run_seekStart, run_seekStart]

theorem filePtr32_data {β : Type} {f : Buf} {o : Nat} {b : Buf}
    (hdata : Spec.Tex.hasBytes f (f.beN o 4) b = true) (k : Buf → Prog β) (ns : List Bytes) (hi : Nat)
    (hfit : o + 4 ≤ f.size) (hpos : 0 < b.size) :
    run (filePtr32 (readBytes b.size) >>= k) f ⟨o, ns, hi⟩ =
      run (k b) f ⟨o + 4, ns, max (max hi (o + 4)) (f.beN o 4 + b.size)⟩ := by
  obtain ⟨hdfit, hext⟩ := hasBytes_spec hdata
  exact filePtr32_run _ k f o ns hi hfit (hext ▸ run_read f _ ns _ b.size .ret hpos hdfit)

/-- The palette header at `o` (12 bytes): entry count, two unused bytes, format 2, data pointer; the
data are read. -/
theorem tplPalette_run (f : Buf) (o : Nat) (ns : List Bytes) (hi : Nat) (pal : Buf)
    (hfit : o + 12 ≤ f.size) (hfmt : f.beN (o + 4) 4 = 2) (hsz : f.beN o 2 * 2 = pal.size)
    (hpos : 0 < pal.size) (hdata : Spec.Tex.hasBytes f (f.beN (o + 8) 4) pal = true) :
    ∃ hi', run tplPalette f ⟨o, ns, hi⟩ = .ok (⟨2, pal⟩, ⟨o + 12, ns, hi'⟩) ∧
      f.beN (o + 8) 4 + pal.size ≤ hi' := by
  exec [tplPalette, hfmt, hsz, ↓ filePtr32_data hdata]
  exact ⟨_, rfl, by apply Nat.le_max_right⟩

/-- The image header at `o` (36 bytes): height, width, format 9 (CI8), data pointer, nine further
fields (24 bytes); the data are read. -/
theorem tplImage_run (f : Buf) (o : Nat) (ns : List Bytes) (hi : Nat) (img : Buf)
    (hfit : o + 36 ≤ f.size) (hfmt : f.beN (o + 4) 4 = 9)
    (hsz : tplImageBytes 9 (f.beN o 2) (f.beN (o + 2) 2) = img.size) (hpos : 0 < img.size)
    (hdata : Spec.Tex.hasBytes f (f.beN (o + 8) 4) img = true) :
    ∃ hi', run tplImage f ⟨o, ns, hi⟩ = .ok (⟨f.beN o 2, f.beN (o + 2) 2, 9, img⟩, ⟨o + 36, ns, hi'⟩) ∧
      f.beN (o + 8) 4 + img.size ≤ hi' := by
  have hok : tplImageFormatOk 9 = true := by decide
  exec [tplImage, hfmt, hok, hsz, ↓ filePtr32_data hdata]
  -- `omega` would split on every `max` of the high-water mark
  exact ⟨_, rfl, by simp only [Std.le_max, Nat.le_refl, true_or, or_true]⟩

/-- What `TplImageTableItem` parses to for the packed image `t`. -/
def tplItemOf (t : Spec.Tex.Tex) : TplImage × TplPalette :=
  (⟨t.height, t.width, 9, t.payload⟩, ⟨2, t.palette⟩)

theorem tplItem_run (f : Buf) (o : Nat) (ns : List Bytes) (hi : Nat) (t : Spec.Tex.Tex)
    (hit : Spec.Tex.tplItem f o t = true) (hv : Spec.Tex.validTpl t = true) :
    ∃ hi', run tplItem f ⟨o, ns, hi⟩ = .ok (tplItemOf t, ⟨o + 8, ns, hi'⟩) ∧
      f.beN (f.beN o 4 + 8) 4 + t.payload.size ≤ hi' ∧
      f.beN (f.beN (o + 4) 4 + 8) 4 + t.palette.size ≤ hi' := by
  obtain ⟨hfmt, hsz, hppos, hqpos, _⟩ := validTpl_spec hv
  simp only [Spec.Tex.tplItem, Bool.and_eq_true, decide_eq_true_eq, beq_iff_eq, be16_eq, be32_eq,
    hfmt] at hit
  obtain ⟨⟨⟨⟨⟨⟨⟨⟨⟨hi8, hi36⟩, hp12⟩, hhei⟩, hwid⟩, hifmt⟩, hpay⟩, hcnt⟩, hpfmt⟩, hpal⟩ := hit
  obtain ⟨hi1, h1, hH1⟩ := tplImage_run f (f.beN o 4) ns (max hi (o + 4)) t.payload hi36 hifmt
    (by rw [hhei, hwid]; exact hsz) hppos hpay
  obtain ⟨hi2, h2, hH2⟩ := tplPalette_run f (f.beN (o + 4) 4) ns (max hi1 (o + 4 + 4)) t.palette hp12
    hpfmt hcnt hqpos hpal
  have hmono := run_hi_mono _ _ _ _ _ h2
  rw [hhei, hwid] at h1
  refine ⟨hi2, ?_, by dsimp only at hmono; omega, hH2⟩
  unfold tplItem
  rw [filePtr32_run _ _ f o ns hi (by omega) h1, filePtr32_run _ _ f (o + 4) ns hi1 (by omega) h2]
  rfl

theorem tplTexture_run (f : Buf) (s : St) (t : Spec.Tex.Tex) (hv : Spec.Tex.validTpl t = true) :
    run (tplTexture (tplItemOf t)) f s = .ok ((t.width, t.height, pixelsOfTpl t), s) := by
  obtain ⟨_, _, _, _, hdec⟩ := validTpl_spec hv
  exec [tplTexture, tplItemOf, hdec]

theorem tpl_full (f : Buf) (texs : List Spec.Tex.Tex) (hc : Spec.Tex.ConformsTpl f texs = true) :
    ∃ raws sf, run tplProg f ⟨0, [], 0⟩ = .ok (raws, sf) ∧
      raws.map (fun r => (⟨[], r.1, r.2.1, r.2.2⟩ : Texture)) = texs.map unpackTpl ∧
      ∀ i t, texs[i]? = some t →
        Spec.Tex.tplPayloadAt f i + t.payload.size ≤ sf.hi ∧
        Spec.Tex.tplPaletteAt f i + t.palette.size ≤ sf.hi := by
  simp only [Spec.Tex.ConformsTpl, Bool.and_eq_true, decide_eq_true_eq, beq_iff_eq, be32_eq] at hc
  obtain ⟨⟨⟨⟨_, h12⟩, hmagic⟩, hcount⟩, hall⟩ := hc
  have hent := allIdx_spec _ texs 0 hall
  simp only [Nat.zero_add, Bool.and_eq_true] at hent
  -- the table entries: the cursor stays on the table (the initial high-water mark is written as the
  -- three header reads leave it)
  obtain ⟨⟨o1, ns1, hi1⟩, hitems, _, hH⟩ :=
    mapM'_run (fun _ : Unit => tplItem) f tplItemOf
      (fun i t =>
        max (Spec.Tex.tplPayloadAt f i + t.payload.size) (Spec.Tex.tplPaletteAt f i + t.palette.size))
      (List.replicate texs.length ()) texs (fun i s => s.pos = f.beN 8 4 + 8 * i)
      ⟨f.beN 8 4, [], max (max (max 0 4) 8) 12⟩ List.length_replicate (by rw [Nat.mul_zero, Nat.add_zero]) (by
        intro i _ t ⟨o, ns, hi⟩ _ ht hp
        obtain ⟨he1, he2⟩ := hent i t ht
        dsimp only at hp
        subst hp
        obtain ⟨hi', hr, hH1, hH2⟩ := tplItem_run f _ ns hi t he1 he2
        refine ⟨_, hr, by dsimp only; omega, Nat.max_le.mpr ?_⟩
        simpa only [Spec.Tex.tplPayloadAt, Spec.Tex.tplPaletteAt, be32_eq] using ⟨hH1, hH2⟩)
  -- decoding leaves the state alone
  obtain ⟨_, hraws, rfl, _⟩ :=
    mapM'_run tplTexture f (fun t => (t.width, t.height, pixelsOfTpl t)) (fun _ _ => 0)
      (texs.map tplItemOf) texs (fun _ s => s = ⟨12, ns1, hi1⟩) ⟨12, ns1, hi1⟩ (List.length_map _) rfl (by
        intro i x t s hx ht hs
        rw [List.getElem?_map, ht] at hx
        cases hx
        exact ⟨s, tplTexture_run f s t (hent i t ht).2, hs, Nat.zero_le _⟩)
  refine ⟨texs.map fun t => (t.width, t.height, pixelsOfTpl t), ⟨12, ns1, hi1⟩, ?_, ?_,
    fun i t ht => Nat.max_le.mp (hH i t ht)⟩
  · rw [← repeatN_eq_mapM'] at hitems
    exec [tplProg, tplParse, hcount, ↓ filePtr32_run _ _ f 8 [] _ (by omega) hitems, hraws]
  · simp [unpackTpl]

theorem tpl_bad_magic_err (f : Buf) (h : f.size < 4 ∨ Spec.Tex.be32 f 0 ≠ 0x0020AF30) :
    run tplProg f ⟨0, [], 0⟩ = .err (if f.size < 4 then .Eof else .BadMagic) :=
  run_bad_magic (fun b => b.beN 0 4) _ _ _ _ f (beN_extract f 0 _ 0 4 (Nat.le_refl _)) (be32_eq f 0 ▸ h)

theorem tpl_bad_magic (f : Buf) (h : f.size < 4 ∨ Spec.Tex.be32 f 0 ≠ 0x0020AF30) :
    ∃ e, run tplProg f ⟨0, [], 0⟩ = .err e :=
  ⟨_, tpl_bad_magic_err f h⟩

end Mila.Containers
