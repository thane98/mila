/-
Closed forms of the calls of the bin-archive model (C03, C04): every validator and every positional
call is a guard `if … then ok … else err …`, from which "never a panic", "an error changes nothing"
and the shape of the result are read off.  The typed calls are the unsigned ones at the width of
the type.  Last, "never a panic" call by call, which is all the readers and writers layered on the
archive (C05) need.
-/
import MilaModel.Model.BinOps
import MilaModel.Lemmas.BinBytes
import MilaModel.Lemmas.Res
import MilaModel.Lemmas.Streams
import MilaModel.Lemmas.Validate

namespace Mila

open BinArchive Spec.Cell

theorem ofLe_eq_foldr (b : Bytes) : ofLe b = b.foldr (fun x acc => x.toNat + 256 * acc) 0 := by
  induction b with
  | nil => rfl
  | cons x xs ih => simp [ofLe, ih]

theorem dec_eq_valueOf (e : Endian) (b : Bytes) : e.dec b = valueOf e b := by
  cases e <;> simp only [Endian.dec, valueOf, ofBe, ofLe_eq_foldr]

theorem toSigned_eq_signedOf (bits n : Nat) : toSigned bits n = signedOf bits n := rfl

theorem validateCell_eq (a : BinArchive) (addr w : Nat) :
    validateCell a addr w = if InRange a.size addr w then .ok () else .err .OutOfBounds := by
  unfold validateCell InRange
  rw [validateAddress_false, validateAddress_true]
  by_cases h1 : addr < a.size <;> by_cases h2 : addr + w ≤ a.size <;> simp [h1, h2]

/-- A call that checks its cell and then returns `r` is a guard on `r`. -/
theorem validateCell_guard {α : Type} (a : BinArchive) (addr w : Nat) (r : Res α) :
    (match validateCell a addr w with
      | .ok () => r
      | .err e => .err e
      | .panic => .panic) = if InRange a.size addr w then r else .err .OutOfBounds := by
  rw [validateCell_eq]
  by_cases h : InRange a.size addr w <;> simp [h]

theorem validateRange_eq_checked (addr len size : Nat) :
    validateRange addr len size =
      if InRange size addr len ∧ addr + len < 2 ^ 64 then .ok (addr + len) else .err .OutOfBounds :=
  (validateRange_checked addr len size).trans (ite_congr rfl (fun _ => rfl) (fun _ => rfl))

/-- A `Vec` is shorter than `2^64`, so on a range inside it the checked sum does not overflow. -/
theorem inRange_and_lt {size addr len : Nat} (hs : size < 2 ^ 64) :
    InRange size addr len ∧ addr + len < 2 ^ 64 ↔ InRange size addr len :=
  and_iff_left_of_imp fun h => Nat.lt_of_le_of_lt h.2 hs

theorem validateRange_eq (addr len size : Nat) (hs : size < 2 ^ 64) :
    validateRange addr len size = if InRange size addr len then .ok (addr + len) else .err .OutOfBounds := by
  simp only [validateRange_eq_checked, inRange_and_lt hs]

/-- `read_bytes`: the bytes of the range when it lies inside the data, else `OutOfBoundsAddress` — for
any address and length, `addr + len` being a checked addition. -/
theorem readBytes_eq_checked (a : BinArchive) (addr len : Nat) :
    a.readBytes addr len = if InRange a.size addr len ∧ addr + len < 2 ^ 64
      then .ok (slice a.data addr len) else .err .OutOfBounds := by
  unfold readBytes
  rw [validateRange_eq_checked]
  by_cases h : InRange a.size addr len ∧ addr + len < 2 ^ 64 <;> simp [h]

theorem readBytes_eq (a : BinArchive) (addr len : Nat) (hs : a.size < 2 ^ 64) :
    a.readBytes addr len = if InRange a.size addr len then .ok (slice a.data addr len) else .err .OutOfBounds := by
  simp only [readBytes_eq_checked, inRange_and_lt hs]

theorem readUInt_eq (a : BinArchive) (addr w : Nat) :
    a.readUInt addr w = if InRange a.size addr w then .ok (valueOf a.endian (slice a.data addr w))
      else .err .OutOfBounds :=
  dec_eq_valueOf .. ▸ validateCell_guard a addr w _

theorem readUInt_ne_panic (a : BinArchive) (x w : Nat) : a.readUInt x w ≠ .panic :=
  readUInt_eq a x w ▸ Res.guard_ne_panic nofun

theorem Reader.readU32_ne_panic (a : BinArchive) (r : Reader) : Reader.readU32 a r ≠ .panic :=
  Reader.step_ne_panic _ _ _ (readUInt_ne_panic a _ 4)

theorem valueOf_single (e : Endian) (b : UInt8) : valueOf e [b] = b.toNat := by
  cases e <;> simp [valueOf]

theorem readU8_eq (a : BinArchive) (addr : Nat) :
    a.readU8 addr = if InRange a.size addr 1 then .ok (valueOf a.endian (slice a.data addr 1))
      else .err .OutOfBounds := by
  unfold readU8 InRange
  rw [validateAddress_false]
  by_cases h : addr < a.size
  · have h' : addr + 1 ≤ a.size := h
    simp only [h, h', and_self, if_true]
    rw [slice_one _ _ h, valueOf_single]
  · simp [h]

theorem writeBytes_eq (a : BinArchive) (addr : Nat) (v : Bytes) :
    a.writeBytes addr v = if InRange a.size addr v.length then .ok { a with data := patch a.data addr v }
      else .err .OutOfBounds := by
  unfold writeBytes InRange
  rw [validateAddress_false, validateAddress_true]
  by_cases h1 : addr < a.size <;> by_cases h2 : addr + v.length ≤ a.size <;> simp [h1, h2]

theorem writeUInt_eq (a : BinArchive) (addr w v : Nat) :
    a.writeUInt addr w v = if InRange a.size addr w then
      .ok { a with data := patch a.data addr (a.endian.enc w v) } else .err .OutOfBounds :=
  validateCell_guard a addr w _

theorem writeU8_eq (a : BinArchive) (addr v : Nat) :
    a.writeU8 addr v = if InRange a.size addr 1 then
      .ok { a with data := patch a.data addr [UInt8.ofNat v] } else .err .OutOfBounds := by
  unfold writeU8 InRange
  rw [validateAddress_false]
  by_cases h : addr < a.size
  · have h' : addr + 1 ≤ a.size := h
    simp [h, h']
  · simp [h]

theorem layout_length (e : Endian) (w v : Nat) : (layout e w v).length = w := by
  simp [layout]

theorem readU8_eq_readUInt (a : BinArchive) (addr : Nat) : a.readU8 addr = a.readUInt addr 1 :=
  (readU8_eq a addr).trans (readUInt_eq a addr 1).symm

/-- `write_u8` stores the byte itself, the other widths go through `enc`. -/
theorem writeU8_eq_writeUInt (a : BinArchive) (addr : Nat) {v : Nat} (h : v < 256) :
    a.writeU8 addr v = a.writeUInt addr 1 v := by
  rw [writeU8_eq, writeUInt_eq]
  cases a.endian <;> simp [Endian.enc, beBytes, leBytes, Nat.mod_eq_of_lt h]

theorem readTy_eq_readUInt (a : BinArchive) (t : Ty) (addr : Nat) :
    a.readTy t addr = (a.readUInt addr t.width).map
      (fun n => if t.signed then signedOf (8 * t.width) n else (n : Int)) := by
  cases t <;> simp only [readTy, readI8, readI16, readI32, readU16, readU32, readF32Bits,
    readU8_eq_readUInt] <;> rfl

theorem writeTy_eq_writeUInt (a : BinArchive) (t : Ty) (addr : Nat) (v : Int) :
    a.writeTy t addr v = a.writeUInt addr t.width (ofSigned (8 * t.width) v) := by
  cases t <;> simp only [writeTy, writeI8, writeI16, writeI32, writeU16, writeU32, writeF32Bits,
    writeU8_eq_writeUInt a addr (ofSigned_lt 8 v)] <;> rfl

theorem readString_eq (a : BinArchive) (x : Nat) :
    a.readString x = if InRange a.size x 4 then .ok (a.text.get x) else .err .OutOfBounds :=
  validateCell_guard a x 4 _

theorem readPointer_eq (a : BinArchive) (x : Nat) :
    a.readPointer x = if InRange a.size x 4 then .ok (a.pointers.get x) else .err .OutOfBounds :=
  validateCell_guard a x 4 _

theorem readLabels_eq (a : BinArchive) (x : Nat) :
    a.readLabels x = if InRange a.size x 4 then .ok (a.labels.get x) else .err .OutOfBounds :=
  validateCell_guard a x 4 _

theorem deleteString_eq (a : BinArchive) (x : Nat) :
    a.deleteString x = if InRange a.size x 4 then .ok { a with text := a.text.remove x }
      else .err .OutOfBounds :=
  validateCell_guard a x 4 _

theorem deletePointer_eq (a : BinArchive) (x : Nat) :
    a.deletePointer x = if InRange a.size x 4 then .ok { a with pointers := a.pointers.remove x }
      else .err .OutOfBounds :=
  validateCell_guard a x 4 _

theorem deleteLabels_eq (a : BinArchive) (x : Nat) :
    a.deleteLabels x = if InRange a.size x 4 then .ok { a with labels := a.labels.remove x }
      else .err .OutOfBounds :=
  validateCell_guard a x 4 _

theorem writeString_eq (a : BinArchive) (x : Nat) (v : Option Str) :
    a.writeString x v = if InRange a.size x 4 then
      .ok { a with text := match v with | some v => a.text.insert x v | none => a.text.remove x }
      else .err .OutOfBounds := by
  cases v
  · exact deleteString_eq a x
  · exact validateCell_guard a x 4 _

theorem writePointer_eq (a : BinArchive) (x : Nat) (v : Option Nat) :
    a.writePointer x v = if InRange a.size x 4 then
      .ok { a with pointers := match v with | some v => a.pointers.insert x v | none => a.pointers.remove x }
      else .err .OutOfBounds := by
  cases v
  · exact deletePointer_eq a x
  · exact validateCell_guard a x 4 _

theorem writeCString_eq (a : BinArchive) (x : Nat) (v : Str) :
    a.writeCString x v = if InRange a.size x 4 then
      .ok { a with cstrings := a.cstrings.insert v ((a.cstrings.get v).getD [] ++ [x]) }
      else .err .OutOfBounds :=
  validateCell_guard a x 4 _

theorem writeLabels_eq (a : BinArchive) (x : Nat) (ls : List Str) :
    a.writeLabels x ls = if x ≤ a.size then .ok { a with labels := a.labels.insert x ls }
      else .err .OutOfBounds := by
  unfold writeLabels
  rw [validateAddress_true]
  by_cases h : x ≤ a.size <;> simp [h]

theorem writeLabel_eq (a : BinArchive) (x : Nat) (l : Str) :
    a.writeLabel x l = if x ≤ a.size then
      .ok { a with labels := a.labels.insert x ((a.labels.get x).getD [] ++ [l]) }
      else .err .OutOfBounds := by
  unfold writeLabel
  rw [validateAddress_true]
  by_cases h : x ≤ a.size <;> simp [h]
  cases a.labels.get x <;> rfl

/-- `delete_label` keeps the bucket (possibly empty) and rejects an index outside it. -/
theorem deleteLabel_eq (a : BinArchive) (x i : Nat) :
    a.deleteLabel x i = if InRange a.size x 4 then
      match a.labels.get x with
      | some bucket => if i < bucket.length then
          .ok { a with labels := a.labels.insert x (bucket.eraseIdx i) } else .err .LabelIndex
      | none => .ok a
      else .err .OutOfBounds :=
  validateCell_guard a x 4 _

theorem allocate_eq (a : BinArchive) (addr n : Nat) (ge : Bool) :
    a.allocate addr n ge =
      if addr ≤ a.size then
        if addr % 4 = 0 ∧ n % 4 = 0 then
          .ok { a with
            data := a.data.take addr ++ List.replicate n 0 ++ a.data.drop addr
            text := adjustText a.text addr n false
            labels := adjustLabels a.labels addr n false ge
            pointers := adjustPointers a.pointers addr n false ge
            cstrings := adjustCStrings a.cstrings addr n false }
        else .err .Unaligned
      else .err .OutOfBounds := by
  unfold allocate
  rw [validateAddress_true, validateAlignment_eq, validateAlignment_eq]
  by_cases h1 : addr ≤ a.size <;> by_cases h2 : addr % 4 = 0 <;> by_cases h3 : n % 4 = 0 <;> simp [h1, h2, h3]

/-- `deallocate` for arbitrary naturals (the end of the range is a checked 64-bit sum). -/
theorem deallocate_eq_checked (a : BinArchive) (addr n : Nat) (ge : Bool) :
    a.deallocate addr n ge =
      if InRange a.size addr n ∧ addr + n < 2 ^ 64 then
        if addr % 4 = 0 ∧ n % 4 = 0 then
          .ok { a with
            data := a.data.take addr ++ a.data.drop (addr + n)
            text := adjustText (filterTextOrLabels a.text addr n) addr n true
            labels := adjustLabels (filterTextOrLabels a.labels addr n) addr n true ge
            pointers := adjustPointers (filterPointers a.pointers addr n) addr n true ge
            cstrings := adjustCStrings
              (filterCStrings a.cstrings (fun x => !inRange addr n x)) addr n true }
        else .err .Unaligned
      else .err .OutOfBounds := by
  unfold deallocate
  rw [validateRange_eq_checked, validateAlignment_eq, validateAlignment_eq]
  by_cases h1 : InRange a.size addr n ∧ addr + n < 2 ^ 64 <;> by_cases h2 : addr % 4 = 0 <;>
    by_cases h3 : n % 4 = 0 <;> simp [h1, h2, h3]

/-! ### no panic: every call is a guard -/

theorem readBytes_ne_panic (a : BinArchive) (x n : Nat) : a.readBytes x n ≠ .panic :=
  readBytes_eq_checked a x n ▸ Res.guard_ne_panic nofun
theorem readU8_ne_panic (a : BinArchive) (x : Nat) : a.readU8 x ≠ .panic :=
  readU8_eq a x ▸ Res.guard_ne_panic nofun
theorem writeBytes_ne_panic (a : BinArchive) (x : Nat) (v : Bytes) : a.writeBytes x v ≠ .panic :=
  writeBytes_eq a x v ▸ Res.guard_ne_panic nofun
theorem writeUInt_ne_panic (a : BinArchive) (x w v : Nat) : a.writeUInt x w v ≠ .panic :=
  writeUInt_eq a x w v ▸ Res.guard_ne_panic nofun
theorem readTy_ne_panic (a : BinArchive) (t : Ty) (x : Nat) : a.readTy t x ≠ .panic :=
  readTy_eq_readUInt a t x ▸ Res.map_ne_panic _ (readUInt_ne_panic a x t.width)
theorem writeTy_ne_panic (a : BinArchive) (t : Ty) (x : Nat) (v : Int) : a.writeTy t x v ≠ .panic :=
  writeTy_eq_writeUInt a t x v ▸ writeUInt_ne_panic a x t.width _
theorem readString_ne_panic (a : BinArchive) (x : Nat) : a.readString x ≠ .panic :=
  readString_eq a x ▸ Res.guard_ne_panic nofun
theorem readPointer_ne_panic (a : BinArchive) (x : Nat) : a.readPointer x ≠ .panic :=
  readPointer_eq a x ▸ Res.guard_ne_panic nofun
theorem readLabels_ne_panic (a : BinArchive) (x : Nat) : a.readLabels x ≠ .panic :=
  readLabels_eq a x ▸ Res.guard_ne_panic nofun
theorem deleteString_ne_panic (a : BinArchive) (x : Nat) : a.deleteString x ≠ .panic :=
  deleteString_eq a x ▸ Res.guard_ne_panic nofun
theorem deletePointer_ne_panic (a : BinArchive) (x : Nat) : a.deletePointer x ≠ .panic :=
  deletePointer_eq a x ▸ Res.guard_ne_panic nofun
theorem deleteLabels_ne_panic (a : BinArchive) (x : Nat) : a.deleteLabels x ≠ .panic :=
  deleteLabels_eq a x ▸ Res.guard_ne_panic nofun
theorem writeCString_ne_panic (a : BinArchive) (x : Nat) (v : Str) : a.writeCString x v ≠ .panic :=
  writeCString_eq a x v ▸ Res.guard_ne_panic nofun
theorem writeString_ne_panic (a : BinArchive) (x : Nat) (v : Option Str) : a.writeString x v ≠ .panic :=
  writeString_eq a x v ▸ Res.guard_ne_panic nofun
theorem writePointer_ne_panic (a : BinArchive) (x : Nat) (v : Option Nat) : a.writePointer x v ≠ .panic :=
  writePointer_eq a x v ▸ Res.guard_ne_panic nofun
theorem writeLabels_ne_panic (a : BinArchive) (x : Nat) (v : List Str) : a.writeLabels x v ≠ .panic :=
  writeLabels_eq a x v ▸ Res.guard_ne_panic nofun
theorem writeLabel_ne_panic (a : BinArchive) (x : Nat) (v : Str) : a.writeLabel x v ≠ .panic :=
  writeLabel_eq a x v ▸ Res.guard_ne_panic nofun
theorem allocate_ne_panic (a : BinArchive) (x n : Nat) (ge : Bool) : a.allocate x n ge ≠ .panic :=
  allocate_eq a x n ge ▸ Res.guard_ne_panic (Res.guard_ne_panic nofun)
theorem deallocate_ne_panic (a : BinArchive) (x n : Nat) (ge : Bool) : a.deallocate x n ge ≠ .panic :=
  deallocate_eq_checked a x n ge ▸ Res.guard_ne_panic (Res.guard_ne_panic nofun)

theorem deleteLabel_ne_panic (a : BinArchive) (x i : Nat) : a.deleteLabel x i ≠ .panic := by
  rw [deleteLabel_eq]
  refine Res.guard_ne_panic ?_
  split
  · exact Res.guard_ne_panic nofun
  · nofun

theorem readCStringRaw_ne_panic (a : BinArchive) (x : Nat) : a.readCStringRaw x ≠ .panic := by
  unfold readCStringRaw
  split
  · split
    · split <;> nofun
    · nofun
    · rename_i h; exact absurd h (validateAddress_false _ _ ▸ Res.guard_ne_panic nofun)
  · nofun
  · nofun
  · rename_i h; exact absurd h (readPointer_ne_panic a x)

theorem Reader.readBytes_ne_panic (a : BinArchive) (r : Reader) (n : Nat) : r.readBytes a n ≠ .panic := by
  unfold Reader.readBytes
  split
  · nofun
  · split
    · nofun
    · nofun
    · rename_i h; exact absurd h (Mila.readBytes_ne_panic _ _ _)

theorem Writer.writeBytes_ne_panic (w : Writer) (v : Bytes) : (w.writeBytes v).2 ≠ .panic := by
  unfold Writer.writeBytes
  split
  · nofun
  · split
    · nofun
    · nofun
    · rename_i h; exact absurd h (Mila.writeBytes_ne_panic _ _ _)

end Mila
