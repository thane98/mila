/-
Flag-bit lemmas shared by C17 and C18: a word accumulated by `f |= 1 << b` over the indices `b`
that satisfy a predicate has bit `j` set exactly when `j` is one of those indices; the test
`(x & (1 << i)) != 0` reads bit `i`.
-/
import MilaModel.Basic

namespace Mila.Layered

/-- `for b in l { if p b { f |= 1 << b } }`. -/
def orFold (p : Nat → Prop) [DecidablePred p] (l : List Nat) (acc : Nat) : Nat :=
  l.foldl (fun f b => if p b then f ||| (1 <<< b) else f) acc

theorem testBit_orFold (p : Nat → Prop) [DecidablePred p] (l : List Nat) (acc j : Nat) :
    (orFold p l acc).testBit j = (acc.testBit j || decide (j ∈ l ∧ p j)) := by
  induction l generalizing acc with
  | nil => simp [orFold]
  | cons b l ih =>
    unfold orFold at ih ⊢
    rw [List.foldl_cons, ih]
    by_cases hb : p b
    · rw [if_pos hb, Nat.testBit_or, Nat.one_shiftLeft, Nat.testBit_two_pow]
      by_cases hj : b = j
      · subst hj; simp [hb]
      · have : ¬ j = b := fun e => hj e.symm
        simp [hj, this]
    · rw [if_neg hb]
      by_cases hj : j = b
      · subst hj; simp [hb]
      · simp [hj]

/-- `(x & (1 << i)) != 0` is bit `i` of `x`. -/
theorem and_shift_ne_zero (x i : Nat) : (x &&& (1 <<< i) != 0) = x.testBit i := by
  rw [Nat.one_shiftLeft]
  cases h : x.testBit i with
  | false =>
    have : x &&& 2 ^ i = 0 := by
      apply Nat.eq_of_testBit_eq
      intro k
      rw [Nat.testBit_and, Nat.testBit_two_pow, Nat.zero_testBit]
      by_cases hk : i = k
      · subst hk; simp [h]
      · simp [hk]
    simp [this]
  | true =>
    have : x &&& 2 ^ i ≠ 0 := by
      intro e
      have := congrArg (fun y => y.testBit i) e
      simp [Nat.testBit_and, h] at this
    simpa using this

theorem orFold_lt (p : Nat → Prop) [DecidablePred p] (l : List Nat) (n : Nat)
    (h : ∀ b ∈ l, b < n) : orFold p l 0 < 2 ^ n := by
  apply Nat.lt_pow_two_of_testBit
  intro i hi
  rw [testBit_orFold]
  simp
  intro hm
  have := h i hm
  omega

theorem orFold_eq_zero_iff (p : Nat → Prop) [DecidablePred p] (l : List Nat) :
    orFold p l 0 = 0 ↔ ∀ b ∈ l, ¬ p b := by
  constructor
  · intro h b hb hp
    have := testBit_orFold p l 0 b
    rw [h] at this
    simp [hb, hp] at this
  · intro h
    apply Nat.eq_of_testBit_eq
    intro i
    rw [testBit_orFold]
    simp
    intro hm
    exact h i hm

theorem sum_countP_flatMap (P : Nat → Bool) (L : List Nat) (M : Nat → List Nat) :
    (L.map (fun g => (M g).countP P)).sum = (L.flatMap M).countP P :=
  List.countP_flatMap.symm

end Mila.Layered
