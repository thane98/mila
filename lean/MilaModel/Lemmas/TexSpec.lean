/-
C20: bridges between the container specification (`Spec/TexContainers.lean`) and the model's
primitives: the specification's field readers are the model's, `hasBytes` / `hasCStr` give what
`read_exact` / `read_until` return, a texture of the property's domain decodes (C19), the texture
loop of the 3DS containers returns the specification's list (`textures_run`), and a name the
specification accepts as UTF-8 passes the model's validity check.
-/
import MilaModel.Lemmas.TexProg
import MilaModel.Lemmas.PixelDecode
import MilaModel.Spec.TexContainers

namespace Mila.Containers
open Spec.Tex Pixel Prog

theorem u8At_eq (d : Buf) (o : Nat) : u8At d o = d.leN o 1 := leAt_eq d o 1
theorem u16At_eq (d : Buf) (o : Nat) : u16At d o = d.leN o 2 := leAt_eq d o 2
theorem u32At_eq (d : Buf) (o : Nat) : u32At d o = d.leN o 4 := leAt_eq d o 4

theorem be16_eq (d : Buf) (o : Nat) : be16 d o = d.beN o 2 := be16At_eq d o

theorem be32_eq (d : Buf) (o : Nat) : be32 d o = d.beN o 4 := by
  simp only [be32, Spec.Linear.be16At, Buf.beN, Buf.byteAt, Nat.add_assoc, Nat.reduceAdd]
  omega

theorem hasBytes_spec {f : Buf} {off : Nat} {b : Buf} (h : hasBytes f off b = true) :
    off + b.size ≤ f.size ∧ f.extract off (off + b.size) = b := by
  simpa [hasBytes] using h

theorem isPow2From8_spec {n : Nat} (h : isPow2From8 n = true) : Spec.Morton.PowerOfTwoFrom8 n := by
  simp only [isPow2From8, Bool.and_eq_true, decide_eq_true_eq, beq_iff_eq] at h
  refine ⟨n.log2, ?_, h.2⟩
  by_cases hk : 3 ≤ n.log2
  · exact hk
  · have : 2 ^ n.log2 ≤ 2 ^ 2 := Nat.pow_le_pow_right (by decide) (by omega)
    omega

/-- A NUL-terminated string in the data is what `read_until(0)` + `pop()` return. -/
theorem rawName_of_hasCStr {f : Buf} {off : Nat} {str : Bytes} (h : hasCStr f off str = true) :
    rawName f off = str := by
  simp only [hasCStr, Bool.and_eq_true, Bool.not_eq_true', decide_eq_true_eq, beq_iff_eq] at h
  obtain ⟨⟨⟨hnz, hfit⟩, hbytes⟩, hz⟩ := h
  have hget : ∀ i, i < str.length → f.getD (off + i) 0 = str[i]?.getD 0 := by
    intro i hi
    rw [← hbytes]
    simp only [Array.getElem?_toList, Array.getElem?_extract, Array.getD_eq_getD_getElem?]
    rw [if_pos (by omega)]
  have hlen : nameLen f off (f.size - off) = str.length := by
    apply nameLen_eq f str.length off _ (by omega) (by omega)
    · intro i hi hzero
      rw [hget i hi, List.getElem?_eq_getElem hi, Option.getD_some] at hzero
      have hc : str.contains 0 = true := List.contains_iff_mem.mpr (hzero ▸ List.getElem_mem hi)
      rw [hnz] at hc
      exact Bool.noConfusion hc
    · rw [← hz]
      simp only [Array.getD_eq_getD_getElem?]
      rw [Array.getElem?_eq_getElem (by omega)]
      rfl
  unfold rawName
  simp only [hlen]
  rw [if_pos (by omega)]
  exact hbytes

theorem readName_run {α : Type} {f : Buf} {off : Nat} {stored name : Bytes} {enc : NameEnc}
    (hcstr : hasCStr f off stored = true) (hdec : decodeName enc stored = some name)
    (k : Unit → Prog α) (ns : List Bytes) (hi : Nat) :
    run (readName enc >>= k) f ⟨off, ns, hi⟩ = run (k ()) f ⟨off, name :: ns, hi⟩ :=
  run_readName f off ns hi enc k (by rw [rawName_of_hasCStr hcstr]; exact hdec)

/-- The nine supported 3DS formats: the specification's bits per pixel against the library's
`bppTimes2`, and which of the two decoders takes the format. -/
theorem bitsPerPixel_spec {fmt bits : Nat} (h : bitsPerPixel fmt = some bits) :
    bits = 4 * bppTimes2 fmt ∧ 0 < bppTimes2 fmt ∧
    (FixedFmt fmt ∧ bppTimes2 fmt = 2 * texelBytes fmt ∨ fmt = 12 ∧ bppTimes2 fmt = 1 ∨
      fmt = 13 ∧ bppTimes2 fmt = 2) := by
  rcases Nat.lt_or_ge fmt 14 with hlt | hge
  · revert bits
    unfold FixedFmt
    revert fmt
    decide +kernel
  · obtain ⟨k, rfl⟩ := Nat.exists_eq_add_of_le hge
    rw [Nat.add_comm] at h
    exact absurd h (by simp [bitsPerPixel])

/-- The pixels the library's decoder makes of a packed 3DS texture's own payload. -/
def pixelsOf (p : Profile) (t : Tex) : Buf :=
  match decodePixelData p t.payload t.width t.height t.format with
  | .ok b => b
  | _ => #[]

/-- The texture a reader must return for a packed 3DS texture. -/
def unpack (p : Profile) (t : Tex) : Texture := ⟨t.name, t.width, t.height, pixelsOf p t⟩

/-- The pixels of a packed CI8 image (TPL). -/
def pixelsOfTpl (t : Tex) : Buf :=
  match tplDecodeImage 2 t.palette 9 t.height t.width t.payload with
  | .ok b => b
  | _ => #[]

def unpackTpl (t : Tex) : Texture := ⟨[], t.width, t.height, pixelsOfTpl t⟩

/-- A texture of the property's domain: the library computes its payload size exactly, the payload
is not empty, and it decodes (in both profiles). -/
theorem valid3ds_decodes (p : Profile) (t : Tex) (h : valid3ds t = true) :
    payloadSize t.format t.width t.height = t.payload.size ∧ 0 < t.payload.size ∧
    decodePixelData p t.payload t.width t.height t.format = .ok (pixelsOf p t) := by
  unfold valid3ds at h
  cases hb : bitsPerPixel t.format with
  | none => simp [hb] at h
  | some bits =>
    simp only [hb, Bool.and_eq_true, decide_eq_true_eq, beq_iff_eq] at h
    obtain ⟨⟨⟨⟨hw, hh⟩, hwb⟩, hhb⟩, hsz⟩ := h
    obtain ⟨rfl, hbpp, hcls⟩ := bitsPerPixel_spec hb
    have hw8 := Etc1.pow2_mod8 (isPow2From8_spec hw)
    have hh8 := Etc1.pow2_mod8 (isPow2From8_spec hh)
    have harea := Nat.mul_comm t.height t.width ▸ area_split hh8 hw8
    rw [Nat.mul_assoc, Nat.mul_assoc] at hsz
    have hdec : ∃ b, decodePixelData p t.payload t.width t.height t.format = .ok b := by
      rcases hcls with ⟨hfix, he⟩ | ⟨hf, he⟩ | ⟨hf, he⟩
      · rw [he, Nat.mul_assoc] at hsz
        obtain ⟨b, hb, _⟩ := decodeRgba_ok p t.payload t.width t.height t.format hfix hw8 hh8 hwb hhb (by omega)
        exact ⟨b, by rw [decodePixelData_tiled p _ _ _ _ (by unfold FixedFmt at hfix; omega), hb]⟩
      · rw [he] at hsz
        obtain ⟨b, hb, _⟩ := Etc1.decode_ok p t.payload t.width t.height false (isPow2From8_spec hw)
          (isPow2From8_spec hh) hwb hhb (by simp only [Etc1.blockBytes]; simp; omega)
        exact ⟨b, by rw [decodePixelData_etc p _ _ _ _ (Or.inl hf), ← hb]; simp [hf]⟩
      · rw [he] at hsz
        obtain ⟨b, hb, _⟩ := Etc1.decode_ok p t.payload t.width t.height true (isPow2From8_spec hw)
          (isPow2From8_spec hh) hwb hhb (by simp only [Etc1.blockBytes]; simp; omega)
        exact ⟨b, by rw [decodePixelData_etc p _ _ _ _ (Or.inr hf), ← hb]; simp [hf]⟩
    obtain ⟨b, hdec⟩ := hdec
    simp only [isPow2From8, Bool.and_eq_true, decide_eq_true_eq] at hw hh
    have : 0 < bppTimes2 t.format * (t.width * t.height) := Nat.mul_pos hbpp (Nat.mul_pos (by omega) (by omega))
    refine ⟨by unfold payloadSize; rw [Nat.mul_assoc]; omega, by omega, by simp [pixelsOf, hdec]⟩

theorem readAndDecode_run (p : Profile) (t : Tex) (hvalid : valid3ds t = true) {f : Buf} {o : Nat}
    (hbytes : hasBytes f o t.payload = true) (ns : List Bytes) (hi : Nat) :
    run (readAndDecode p (payloadSize t.format t.width t.height) t.width t.height t.format) f ⟨o, ns, hi⟩ =
      .ok ((t.width, t.height, pixelsOf p t),
        ⟨o + t.payload.size, ns, max hi (o + t.payload.size)⟩) := by
  obtain ⟨hfit, hext⟩ := hasBytes_spec hbytes
  obtain ⟨hps, hpos, hdec⟩ := valid3ds_decodes p t hvalid
  exec [readAndDecode, hps, hext, hdec]

theorem allIdx_spec {α : Type} (P : Nat → α → Bool) :
    ∀ (xs : List α) (k : Nat), allIdx P k xs = true → ∀ i x, xs[i]? = some x → P (k + i) x = true := by
  intro xs
  induction xs with
  | nil => intro k _ i x h; simp at h
  | cons y ys ih =>
    intro k h i x hx
    simp only [allIdx, Bool.and_eq_true] at h
    cases i with
    | zero => cases hx; exact h.1
    | succ j => exact Nat.add_right_comm k 1 j ▸ ih (k + 1) h.2 j x hx

/-- The texture loop of the 3DS containers, against the textures `texs` that the specification says
are stored: item `i` returns width, height and pixels of `texs[i]`, logs its name and reads up to
`H i t`.  Started with an empty log, the loop ends with the names latest first, so that `assemble`
makes the unpacked textures of what it returns; and it has read up to every `H i t` (the
high-water mark only grows). -/
theorem textures_run {α : Type} (p : Profile) (g : α → Prog Raw) (f : Buf) (H : Nat → Tex → Nat)
    (xs : List α) (texs : List Tex) (s : St) (hs : s.names = []) (hlen : xs.length = texs.length)
    (hstep : ∀ i x t s, xs[i]? = some x → texs[i]? = some t →
      ∃ s', run (g x) f s = .ok ((t.width, t.height, pixelsOf p t), s') ∧ s'.names = t.name :: s.names ∧
        H i t ≤ s'.hi) :
    ∃ raws sf, run (mapM' g xs) f s = .ok (raws, sf) ∧
      assemble sf.names.reverse raws = texs.map (unpack p) ∧ ∀ i t, texs[i]? = some t → H i t ≤ sf.hi := by
  obtain ⟨sf, hr, hn, hH⟩ := mapM'_run g f (fun t => (t.width, t.height, pixelsOf p t)) H xs texs
    (fun i s' => s'.names = ((texs.take i).map (·.name)).reverse) s hlen (by simpa using hs) (by
      intro i x t s1 hx ht hn
      obtain ⟨s2, h2, hn2, hH2⟩ := hstep i x t s1 hx ht
      exact ⟨s2, h2, by rw [hn2, hn, List.take_add_one, ht]; simp, hH2⟩)
  refine ⟨_, sf, hr, ?_, hH⟩
  rw [hn, List.take_length]
  simp [assemble, unpack, List.zipWith_map]

theorem utf8Valid_ascii {b0 : UInt8} {r : Bytes} (h : b0 ≤ 0x7F) : utf8Valid (b0 :: r) = utf8Valid r := by
  rw [utf8Valid.eq_def]
  simp only [UInt8.lt_iff_toNat_lt, UInt8.le_iff_toNat_le, UInt8.reduceToNat] at *
  rw [if_pos (by omega)]

theorem utf8Valid_two {b0 b1 : UInt8} {r : Bytes} (h : (decide (0xC2 ≤ b0) && decide (b0 ≤ 0xDF)) = true) :
    utf8Valid (b0 :: b1 :: r) = (isCont b1 && utf8Valid r) := by
  rw [utf8Valid]
  simp only [UInt8.lt_iff_toNat_lt, UInt8.le_iff_toNat_le, UInt8.reduceToNat, Bool.and_eq_true,
    decide_eq_true_eq] at *
  rw [if_neg (by omega), if_pos (by omega)]

theorem utf8Valid_E0 {b1 b2 : UInt8} {r : Bytes} :
    utf8Valid (0xE0 :: b1 :: b2 :: r) = ((0xA0 ≤ b1 && b1 ≤ 0xBF) && isCont b2 && utf8Valid r) := by
  rw [utf8Valid]; simp

theorem utf8Valid_ED {b1 b2 : UInt8} {r : Bytes} :
    utf8Valid (0xED :: b1 :: b2 :: r) = ((0x80 ≤ b1 && b1 ≤ 0x9F) && isCont b2 && utf8Valid r) := by
  rw [utf8Valid]; simp

theorem utf8Valid_three {b0 b1 b2 : UInt8} {r : Bytes}
    (h : (decide (0xE1 ≤ b0) && decide (b0 ≤ 0xEF)) = true) (hED : ¬(b0 == 0xED) = true) :
    utf8Valid (b0 :: b1 :: b2 :: r) = (isCont b1 && isCont b2 && utf8Valid r) := by
  rw [utf8Valid]
  simp only [UInt8.lt_iff_toNat_lt, UInt8.le_iff_toNat_le, ← UInt8.toNat_inj, UInt8.reduceToNat,
    Bool.and_eq_true, Bool.or_eq_true, decide_eq_true_eq, beq_iff_eq] at *
  rw [if_neg (by omega), if_neg (by omega), if_neg (by omega), if_pos (by omega)]

theorem utf8Valid_F0 {b1 b2 b3 : UInt8} {r : Bytes} :
    utf8Valid (0xF0 :: b1 :: b2 :: b3 :: r) =
      ((0x90 ≤ b1 && b1 ≤ 0xBF) && isCont b2 && isCont b3 && utf8Valid r) := by
  rw [utf8Valid]; simp

theorem utf8Valid_F4 {b1 b2 b3 : UInt8} {r : Bytes} :
    utf8Valid (0xF4 :: b1 :: b2 :: b3 :: r) =
      ((0x80 ≤ b1 && b1 ≤ 0x8F) && isCont b2 && isCont b3 && utf8Valid r) := by
  rw [utf8Valid]; simp

theorem utf8Valid_four {b0 b1 b2 b3 : UInt8} {r : Bytes}
    (h : (decide (0xF1 ≤ b0) && decide (b0 ≤ 0xF3)) = true) :
    utf8Valid (b0 :: b1 :: b2 :: b3 :: r) = (isCont b1 && isCont b2 && isCont b3 && utf8Valid r) := by
  rw [utf8Valid]
  simp only [UInt8.lt_iff_toNat_lt, UInt8.le_iff_toNat_le, ← UInt8.toNat_inj, UInt8.reduceToNat,
    Bool.and_eq_true, Bool.or_eq_true, decide_eq_true_eq, beq_iff_eq] at *
  rw [if_neg (by omega), if_neg (by omega), if_neg (by omega), if_neg (by omega), if_neg (by omega),
    if_neg (by omega), if_pos (by omega)]

theorem and_mono_right {p x y : Bool} (h : x = true → y = true) : (p && x) = true → (p && y) = true := by
  cases p <;> simp <;> exact h

/-- The specification's well-formedness check implies the model's (`encoding_rs`) validity check:
the two run through the same classes of lead bytes (in a different order) and ask the same of the
continuation bytes. -/
theorem utf8_spec_valid : ∀ (b : Bytes), Spec.Tex.utf8 b = true → utf8Valid b = true := by
  intro b
  fun_induction Spec.Tex.utf8 b with
  | case1 => exact fun _ => rfl
  | case2 a rest ha ih => rw [utf8Valid_ascii ha]; exact ih
  | case3 => exact fun h => nomatch h
  | case4 a _ d r h ih => rw [utf8Valid_two h]; exact and_mono_right ih
  | case5 => exact fun h => nomatch h
  | case6 a _ d1 _ d r h ih => obtain rfl := eq_of_beq h; rw [utf8Valid_E0]; exact and_mono_right ih
  | case7 a _ d1 _ d r _ h ih => obtain rfl := eq_of_beq h; rw [utf8Valid_ED]; exact and_mono_right ih
  | case8 a _ d1 _ d r _ hED h ih => rw [utf8Valid_three h hED]; exact and_mono_right ih
  | case9 => exact fun h => nomatch h
  | case10 a _ d2 _ d1 _ _ _ d r h ih =>
    obtain rfl := eq_of_beq h; rw [utf8Valid_F0]; exact and_mono_right ih
  | case11 a _ d2 _ d1 _ _ _ d r _ h ih =>
    obtain rfl := eq_of_beq h; rw [utf8Valid_F4]; exact and_mono_right ih
  | case12 a _ d2 _ d1 _ _ _ d r _ _ h ih => rw [utf8Valid_four h]; exact and_mono_right ih
  | case13 => exact fun h => nomatch h

theorem utf8Name_decodes {t : Tex} (h : utf8Name t = true) : decodeName .utf8 t.stored = some t.name := by
  simp only [utf8Name, Bool.and_eq_true, beq_iff_eq] at h
  simp [decodeName, h.1, utf8_spec_valid _ h.2]

end Mila.Containers
