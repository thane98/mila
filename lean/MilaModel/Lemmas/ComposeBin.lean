/-
Composition glue, C01 → C06/C17/C18: the bin-archive round trip of property C01 (`Ser.parse_serialize`,
stated with `RoundTrip` / `Parsed`) implies the `BinRoundTrip` / `SameContent` hypothesis that the
layered formats take, for every archive of C01's domain that has no pending c-string and no empty
label bucket (an empty bucket is not content: the parser cannot recreate it); every `Tidy` archive
with aligned string cells is such an archive (`Tidy.binRoundTrip`).
-/
import MilaModel.Lemmas.SerObs
import MilaModel.Lemmas.ComposeTidy

namespace Mila.Compose
open Mila Mila.BinArchive Mila.Ser Mila.Layered Mila.Spec.Image

section
variable {c : Codec} {D : Str → Prop} {a b : BinArchive} {f : Bytes}

theorem rt_pointer_get (h : RoundTrip c D a f b) (hC : a.cstrings = []) (x : Nat) :
    UMap.get b.pointers x = UMap.get a.pointers x := by
  cases hg : UMap.get a.pointers x with
  | some v =>
    have hm : (x, v) ∈ a.pointers :=
      (UMap.mem_iff_get (List.nodup_append.mp (List.nodup_append.mp (archCells_nodup h.wf)).1).1 (x, v)).mpr hg
    exact rt_pointer h hm
  | none =>
    apply rt_pointer_none h
    · exact (UMap.get_eq_none_iff a.pointers x).mp hg
    · intro q hq; rw [hC] at hq; cases hq

/-- Label buckets survive exactly (not only up to `getD []`) when the original has no empty one. -/
theorem rt_labels_get (h : RoundTrip c D a f b) (hne : ∀ p ∈ a.labels, p.2 ≠ []) (x : Nat) :
    UMap.get b.labels x = UMap.get a.labels x := by
  have hl := rt_labels h x
  cases ha : UMap.get a.labels x with
  | some l =>
    have hm : (x, l) ∈ a.labels := (UMap.mem_iff_get h.wf.labelKeys (x, l)).mpr ha
    have hl0 : l ≠ [] := hne _ hm
    rw [ha] at hl
    cases hb : UMap.get b.labels x with
    | some l' => rw [hb] at hl; simp only [Option.getD_some] at hl; rw [hl]
    | none => rw [hb] at hl; simp only [Option.getD_some, Option.getD_none] at hl; exact absurd hl.symm hl0
  | none =>
    rw [ha] at hl
    cases hb : UMap.get b.labels x with
    | none => rfl
    | some l' =>
      rw [hb] at hl
      simp only [Option.getD_some, Option.getD_none] at hl
      have hm : (x, l') ∈ b.labels := (UMap.mem_iff_get h.parsed.labelKeys (x, l')).mpr hb
      exact absurd hl (h.parsed.nonempty _ hm)

theorem sameContent_of_roundTrip (h : RoundTrip c D a f b) (hC : a.cstrings = [])
    (hne : ∀ p ∈ a.labels, p.2 ≠ []) : SameContent a b where
  size := by rw [rt_size h, cstrPool_nil c a hC]; rfl
  endian := h.parsed.endian
  text := rt_string h
  pointers := rt_pointer_get h hC
  labels := rt_labels_get h hne
  raw := by
    intro p _ hfree
    apply List.ext_getElem?
    intro i
    rw [BinArchive.getElem?_slice, BinArchive.getElem?_slice]
    by_cases hi : i < 4
    · rw [if_pos hi, if_pos hi, rt_bytes h (p + i), cstrPool_nil c a hC, List.append_nil]
      intro x hx
      unfold archCells at hx
      rw [hC] at hx
      simp only [List.flatMap_nil, List.append_nil, List.mem_append, List.mem_map] at hx
      by_cases hov : x < p + 4 ∧ p < x + 4
      · obtain ⟨ht, hp⟩ := hfree x hov.1 hov.2
        rcases hx with ⟨q, hq, rfl⟩ | ⟨q, hq, rfl⟩
        · exact absurd rfl ((UMap.get_eq_none_iff a.pointers q.1).mp hp q hq)
        · exact absurd rfl ((UMap.get_eq_none_iff a.text q.1).mp ht q hq)
      · omega
    · rw [if_neg hi, if_neg hi]

end

/-- **`BinRoundTrip` is a theorem** (property C01) for every archive of C01's quantifier — cells
pairwise disjoint and inside the data, targets and labels `≤ size` — over a codec faithful on its
strings, with an image below 4 GiB, no pending c-string and no empty label bucket. -/
theorem binRoundTrip_of_C01 (c : Codec) (D : Str → Prop) (a : BinArchive) (wf : ArchWF a)
    (hf : c.Faithful D) (dom : InDomain D a) (small : imageSize c a < 2 ^ 32)
    (hC : a.cstrings = []) (hne : ∀ p ∈ a.labels, p.2 ≠ []) : BinRoundTrip c a := by
  intro bytes hs
  obtain ⟨f, b, hs', hb, hc, hp⟩ := Ser.parse_serialize c D a wf hf dom small
  have hs'' : BinArchive.serialize c a = .ok bytes := hs
  rw [hs''] at hs'
  cases hs'
  exact ⟨b, hb, sameContent_of_roundTrip ⟨wf, hf, dom, hc, hp⟩ hC hne⟩

theorem data_eq_of_roundTrip {c : Codec} {D : Str → Prop} {a b : BinArchive} {f : Bytes}
    (h : RoundTrip c D a f b) (hT : a.text = []) (hP : a.pointers = []) (hC : a.cstrings = []) :
    b.data = a.data := by
  apply List.ext_getElem?
  intro i
  rw [rt_bytes h i, cstrPool_nil c a hC, List.append_nil]
  intro x hx
  unfold archCells at hx
  rw [hT, hP, hC] at hx
  simp at hx

variable {D : Str → Prop}

/-- A tidy archive whose string cells are 4-aligned is in C01's domain. -/
theorem Tidy.archWF {a : BinArchive} (h : Tidy D a) (hp : Plain a) : ArchWF a := by
  have hcells : archCells a = a.text.map (·.1) := by
    unfold archCells; rw [h.noptr, h.nocstr]; simp
  have hal : ∀ x ∈ a.text.map (·.1), x % 4 = 0 := by
    intro x hx
    obtain ⟨q, hq, rfl⟩ := List.mem_map.mp hx
    exact hp.aligned q.1 (UMap.get_ne_none_of_mem (v := q.2) hq)
  refine ⟨?_, ?_, ?_, h.labelKeys, h.labelAddrs⟩
  · intro x hx
    rw [hcells] at hx
    obtain ⟨q, hq, rfl⟩ := List.mem_map.mp hx
    exact h.textIn q hq
  · rw [hcells]
    apply List.Pairwise.imp_of_mem _ h.textKeys
    intro x y hx hy hne
    have := hal x hx
    have := hal y hy
    omega
  · intro p hp'; rw [h.noptr] at hp'; cases hp'

theorem Tidy.inDomain {a : BinArchive} (h : Tidy D a) : InDomain D a :=
  ⟨h.textDom, h.labelDom, by intro p hp; rw [h.nocstr] at hp; cases hp⟩

theorem Tidy.binRoundTrip {a : BinArchive} (h : Tidy D a) (hp : Plain a) (c : Codec)
    (hf : c.Faithful D) (small : imageSize c a < 2 ^ 32) : BinRoundTrip c a :=
  binRoundTrip_of_C01 c D a (h.archWF hp) hf h.inDomain small h.nocstr h.labelNonempty

/-- `serialize` succeeds on every tidy, aligned archive (C01 `serialize_conforms`). -/
theorem Tidy.serialize_ok {a : BinArchive} (h : Tidy D a) (hp : Plain a) (c : Codec)
    (hf : c.Faithful D) (small : imageSize c a < 2 ^ 32) :
    ∃ bytes, BinArchive.serialize c a = .ok bytes ∧ bytes.length = imageSize c a := by
  obtain ⟨f, hs, hl, _⟩ := Ser.serialize_conforms c D a (h.archWF hp) hf h.inDomain small
  exact ⟨f, hs, hl⟩

end Mila.Compose

/-! ### a format layered over the bin archive

What C17 and C18 prove of their formats follows from three facts that meet in a declarative layout
`L`: the writer builds an archive that shows `L`, the reader is correct on every archive that shows
`L`, and `L` is carried along `SameContent`. -/
namespace Mila.Layered
open Compose Ser

/-- The three facts at one value of the format's domain.  `build` is the archive the format's
`serialize` hands to the bin-archive stage, `ser` the bytes it returns, `read` the format's
`from_archive` and `y` what it reports of the value. -/
structure Format {β : Type} (D : Str → Prop) (build : Res BinArchive) (ser : Codec → Res Bytes)
    (read : BinArchive → Res β) (y : β) (L : BinArchive → Prop) : Prop where
  built : ∃ a, build = .ok a ∧ L a ∧ Plain a ∧ Tidy D a
  ser_eq : ∀ c a, build = .ok a → ser c = a.serialize c
  read_eq : ∀ b, L b → read b = .ok y
  transfer : ∀ a b, Plain a → L a → SameContent a b → L b
  little : ∀ a, L a → a.endian = .little

namespace Format
variable {β : Type} {D : Str → Prop} {build : Res BinArchive} {ser : Codec → Res Bytes}
  {read : BinArchive → Res β} {y : β} {L : BinArchive → Prop} (F : Format D build ser read y L)
include F

theorem of_build {a : BinArchive} (ha : build = .ok a) :
    L a ∧ Plain a ∧ Tidy D a := by
  obtain ⟨a', ha', h⟩ := F.built
  rw [ha] at ha'
  cases ha'
  exact h

theorem build_ok : ∃ a, build = .ok a :=
  have ⟨a, ha, _⟩ := F.built
  ⟨a, ha⟩

theorem roundtrip : ∃ a, build = .ok a ∧ read a = .ok y :=
  have ⟨a, ha, hl, _⟩ := F.built
  ⟨a, ha, F.read_eq a hl⟩

/-- Two values with the same archive are reported alike. -/
theorem injective {D' : Str → Prop} {build' : Res BinArchive}
    {ser' : Codec → Res Bytes} {y' : β} {L' : BinArchive → Prop}
    (G : Format D' build' ser' read y' L') (h : build = build') : y = y' := by
  obtain ⟨a, ha, ra⟩ := F.roundtrip
  obtain ⟨b, hb, rb⟩ := G.roundtrip
  cases ha.symm.trans (h.trans hb)
  cases ra.symm.trans rb
  rfl

theorem layering {a b : BinArchive} (ha : build = .ok a)
    (hab : SameContent a b) : read b = read a := by
  obtain ⟨hl, hp, _⟩ := F.of_build ha
  rw [F.read_eq b (F.transfer a b hp hl hab), F.read_eq a hl]

/-- Given the bin-archive round trip for the built archive `a`, the serialised file parses to an
archive with the content of `a`, which shows the layout. -/
theorem file (c : Codec)
    (hC01 : ∀ a, build = .ok a → BinRoundTrip c a) (bytes : Bytes) (hs : ser c = .ok bytes) :
    ∃ a b, build = .ok a ∧ BinArchive.parse c .little bytes = .ok b ∧ SameContent a b ∧ L b := by
  obtain ⟨a, ha, hl, hp, _⟩ := F.built
  rw [F.ser_eq c a ha] at hs
  obtain ⟨b, hb, hab⟩ := hC01 a ha bytes hs
  rw [F.little a hl] at hb
  exact ⟨a, b, ha, hb, hab, F.transfer a b hp hl hab⟩

theorem file_roundtrip (c : Codec)
    (hC01 : ∀ a, build = .ok a → BinRoundTrip c a) (bytes : Bytes) (hs : ser c = .ok bytes) :
    ∃ b, BinArchive.parse c .little bytes = .ok b ∧ read b = .ok y :=
  have ⟨_, b, _, hb, _, hl⟩ := F.file c hC01 bytes hs
  ⟨b, hb, F.read_eq b hl⟩

/-- The hypothesis `hC01` is a theorem: the built archive is tidy and plain. -/
theorem bin_roundtrip (c : Codec) (hf : c.Faithful D)
    (a : BinArchive) (ha : build = .ok a) (small : imageSize c a < 2 ^ 32) : BinRoundTrip c a :=
  have ⟨_, hp, ht⟩ := F.of_build ha
  ht.binRoundTrip hp c hf small

theorem serialize_ok (c : Codec) (hf : c.Faithful D)
    (small : ∀ a, build = .ok a → imageSize c a < 2 ^ 32) :
    ∃ a bytes, build = .ok a ∧ ser c = .ok bytes ∧ bytes.length = imageSize c a := by
  obtain ⟨a, ha, _, hp, ht⟩ := F.built
  obtain ⟨bytes, hs, hl⟩ := ht.serialize_ok hp c hf (small a ha)
  exact ⟨a, bytes, ha, (F.ser_eq c a ha).trans hs, hl⟩

theorem file_roundtrip_unconditional (c : Codec)
    (hf : c.Faithful D) (small : ∀ a, build = .ok a → imageSize c a < 2 ^ 32) :
    ∃ bytes b, ser c = .ok bytes ∧ BinArchive.parse c .little bytes = .ok b ∧ read b = .ok y :=
  have ⟨_, bytes, _, hs, _⟩ := F.serialize_ok c hf small
  have ⟨b, hb, hr⟩ := F.file_roundtrip c
    (fun a ha => F.bin_roundtrip c hf a ha (small a ha)) bytes hs
  ⟨bytes, b, hs, hb, hr⟩

end Format
end Mila.Layered
