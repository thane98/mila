/-
Composition glue, C01 → C17/C18: an invariant of archives under construction by the stream writer
(`Tidy`) that every primitive write preserves; together with the alignment of the string cells
(`Layered.Plain`) it gives C01's quantifier (`Tidy.archWF`, in ComposeBin).  The lemmas on primitive
writes are *success-driven* (`op = .ok a' → …`), so no fit / bounds reasoning is repeated here; the
writers' layout theorems, which establish success, carry the invariant along (`Layered.Writes`).
-/
import MilaModel.Lemmas.AsetCells

namespace Mila.Compose
open Mila Mila.BinArchive Mila.Layered

/-- String cells: one per key, inside the data, strings in `D`.  No pointers, no pending c-strings.
Labels: one bucket per address, addresses `≤ size`, no empty bucket, names in `D`. -/
structure Tidy (D : Str → Prop) (a : BinArchive) : Prop where
  textKeys : (a.text.map (·.1)).Nodup
  textIn : ∀ p ∈ a.text, p.1 + 4 ≤ a.size
  textDom : ∀ p ∈ a.text, D p.2
  noptr : a.pointers = []
  nocstr : a.cstrings = []
  labelKeys : (a.labels.map (·.1)).Nodup
  labelAddrs : ∀ p ∈ a.labels, p.1 ≤ a.size
  labelNonempty : ∀ p ∈ a.labels, p.2 ≠ []
  labelDom : ∀ p ∈ a.labels, ∀ n ∈ p.2, D n

variable {D : Str → Prop}

theorem tidy_new (e : Endian) : Tidy D (BinArchive.new e) :=
  ⟨by simp [BinArchive.new], by simp [BinArchive.new], by simp [BinArchive.new], rfl, rfl,
   by simp [BinArchive.new], by simp [BinArchive.new], by simp [BinArchive.new], by simp [BinArchive.new]⟩

theorem lt_of_validateAddress_false {x n : Nat} (h : validateAddress x n false = .ok ()) : x < n :=
  BinArchive.lt_of_validateAddress_false h

theorem Tidy.withData {a : BinArchive} (h : Tidy D a) (d : Bytes) (hd : a.data.length ≤ d.length) :
    Tidy D { a with data := d } :=
  ⟨h.textKeys, fun p hp => Nat.le_trans (h.textIn p hp) hd, h.textDom, h.noptr, h.nocstr,
   h.labelKeys, fun p hp => Nat.le_trans (h.labelAddrs p hp) hd, h.labelNonempty, h.labelDom⟩

theorem Tidy.allocateAtEnd {a : BinArchive} (h : Tidy D a) (n : Nat) : Tidy D (a.allocateAtEnd n) :=
  h.withData _ (by simp)

theorem Tidy.writeUInt4 {a a' : BinArchive} {p v : Nat} (h : Tidy D a)
    (hw : a.writeUInt p 4 v = .ok a') : Tidy D a' := by
  revert hw
  fun_cases BinArchive.writeUInt a p 4 v <;> intro hw <;> cases hw
  next hv =>
    apply h.withData
    rw [length_patch _ _ _ (by rw [enc_length]; exact fits_of_validateCell hv)]
    exact Nat.le_refl _

theorem Tidy.writeBytes {a a' : BinArchive} {p : Nat} {v : Bytes} (h : Tidy D a)
    (hw : a.writeBytes p v = .ok a') : Tidy D a' := by
  revert hw
  fun_cases BinArchive.writeBytes a p v <;> intro hw <;> cases hw
  next _ hv =>
    apply h.withData
    rw [length_patch _ _ _ (le_of_validateAddress_true hv)]
    exact Nat.le_refl _

theorem Tidy.writeString {a a' : BinArchive} {p : Nat} {v : Option Str} (h : Tidy D a)
    (hv : ∀ s, v = some s → D s) (hw : a.writeString p v = .ok a') : Tidy D a' := by
  unfold BinArchive.writeString at hw
  cases v with
  | some s =>
    simp only at hw
    split at hw
    · rename_i hc
      cases hw
      have hfit := fits_of_validateCell hc
      exact ⟨UMap.keys_insert_nodup _ _ _ h.textKeys, UMap.forall_mem_insert hfit h.textIn,
        UMap.forall_mem_insert (hv s rfl) h.textDom, h.noptr, h.nocstr, h.labelKeys, h.labelAddrs,
        h.labelNonempty, h.labelDom⟩
    · cases hw
    · cases hw
  | none =>
    simp only [deleteString] at hw
    split at hw
    · cases hw
      have hsub : (a.text.remove p).Sublist a.text := List.filter_sublist
      exact ⟨List.Nodup.sublist (hsub.map _) h.textKeys, fun q hq => h.textIn q (hsub.subset hq),
        fun q hq => h.textDom q (hsub.subset hq), h.noptr, h.nocstr, h.labelKeys, h.labelAddrs,
        h.labelNonempty, h.labelDom⟩
    · cases hw
    · cases hw

theorem Tidy.writeLabel {a a' : BinArchive} {p : Nat} {l : Str} (h : Tidy D a) (hl : D l)
    (hw : a.writeLabel p l = .ok a') : Tidy D a' := by
  unfold BinArchive.writeLabel at hw
  split at hw
  · next hv =>
    have hp := le_of_validateAddress_true hv
    -- the label joins the bucket at `p` (the empty one if there is none)
    have key : ∀ bucket : List Str, (∀ n ∈ bucket, D n) →
        Tidy D { a with labels := a.labels.insert p (bucket ++ [l]) } := by
      intro bucket hb
      refine ⟨h.textKeys, h.textIn, h.textDom, h.noptr, h.nocstr, UMap.keys_insert_nodup _ _ _ h.labelKeys,
        UMap.forall_mem_insert hp h.labelAddrs, UMap.forall_mem_insert (by simp) h.labelNonempty,
        UMap.forall_mem_insert ?_ h.labelDom⟩
      intro n hn
      rcases List.mem_append.mp hn with hn | hn
      · exact hb n hn
      · rw [List.mem_singleton.mp hn]; exact hl
    split at hw
    · next bucket hb => cases hw; exact key bucket (h.labelDom _ (UMap.mem_of_get hb))
    · cases hw; exact key [] (fun _ hn => by cases hn)
  · cases hw
  · cases hw

end Mila.Compose
