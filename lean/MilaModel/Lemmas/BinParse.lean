/-
`BinArchive.parse` (`from_bytes`) never panics, and the archive it returns has the data region it
cut out of the input and the endianness that was asked for: each step of its two loops fails, or
writes one annotation into the archive it was given, and the loops start from an archive without
annotations.
-/
import MilaModel.Lemmas.BinCell

namespace Mila.BinArchive

/-- What every step of `parse` guarantees of its outcome `r`: it is not a panic, and an archive it
returns still has the data `d` and the endianness `e` (only annotations were written). -/
def KeepsFrame (d : Bytes) (e : Endian) (r : Res BinArchive) : Prop :=
  r ≠ .panic ∧ ∀ a', r = .ok a' → a'.data = d ∧ a'.endian = e

theorem keepsFrame_err (d : Bytes) (e : Endian) (er : Err) : KeepsFrame d e (.err er) :=
  ⟨nofun, nofun⟩

theorem keepsFrame_guard {d : Bytes} {e : Endian} {c : Prop} [Decidable c] {a' : BinArchive} {er : Err}
    (h : a'.data = d ∧ a'.endian = e) : KeepsFrame d e (if c then .ok a' else .err er) :=
  ⟨Res.guard_ne_panic nofun, fun _ h' => Res.guard_ok_prop (P := fun x => x.data = d ∧ x.endian = e) h h'⟩

theorem writeString_keepsFrame (a : BinArchive) (addr : Nat) (s : Option Str) :
    KeepsFrame a.data a.endian (a.writeString addr s) :=
  writeString_eq a addr s ▸ keepsFrame_guard ⟨rfl, rfl⟩

theorem writePointer_keepsFrame (a : BinArchive) (addr : Nat) (v : Option Nat) :
    KeepsFrame a.data a.endian (a.writePointer addr v) :=
  writePointer_eq a addr v ▸ keepsFrame_guard ⟨rfl, rfl⟩

theorem writeLabel_keepsFrame (a : BinArchive) (addr : Nat) (l : Str) :
    KeepsFrame a.data a.endian (a.writeLabel addr l) :=
  writeLabel_eq a addr l ▸ keepsFrame_guard ⟨rfl, rfl⟩

theorem sjisAt_ne_panic (c : Codec) (b : Bytes) (pos : Nat) : sjisAt c b pos ≠ .panic := by
  unfold sjisAt; split <;> nofun

/-! Each step returns what a write returns, an error, or the panic of a call that has none. -/

theorem parsePointerAt_keepsFrame (c : Codec) (bytes : Bytes) (ds : Nat) (a : BinArchive) (ptrAddr : Nat) :
    KeepsFrame a.data a.endian (parsePointerAt c bytes ds a ptrAddr) := by
  fun_cases parsePointerAt c bytes ds a ptrAddr <;>
    simp_all [writeString_keepsFrame, writePointer_keepsFrame, keepsFrame_err, readU32, readUInt_ne_panic,
      sjisAt_ne_panic]

theorem parsePointer_keepsFrame (c : Codec) (e : Endian) (bytes : Bytes) (ds : Nat) (a : BinArchive)
    (pos : Nat) : KeepsFrame a.data a.endian (parsePointer c e bytes ds a pos) := by
  fun_cases parsePointer c e bytes ds a pos
  · exact keepsFrame_err _ _ _
  · exact parsePointerAt_keepsFrame ..

theorem parseLabelAt_keepsFrame (c : Codec) (bytes : Bytes) (ts : Nat) (a : BinArchive)
    (address offset : Nat) : KeepsFrame a.data a.endian (parseLabelAt c bytes ts a address offset) := by
  fun_cases parseLabelAt c bytes ts a address offset <;>
    simp_all [writeLabel_keepsFrame, keepsFrame_err, sjisAt_ne_panic]

theorem parseLabel_keepsFrame (c : Codec) (e : Endian) (bytes : Bytes) (ts : Nat) (a : BinArchive)
    (pos : Nat) : KeepsFrame a.data a.endian (parseLabel c e bytes ts a pos) := by
  fun_cases parseLabel c e bytes ts a pos
  · exact parseLabelAt_keepsFrame ..
  · exact keepsFrame_err _ _ _

theorem foldlM_keepsFrame {ι : Type} {d : Bytes} {e : Endian} (f : BinArchive → ι → Res BinArchive)
    (hf : ∀ a x, KeepsFrame a.data a.endian (f a x)) (l : List ι) (a : BinArchive)
    (h : a.data = d ∧ a.endian = e) : KeepsFrame d e (l.foldlM f a) :=
  ⟨Res.foldlM_ne_panic f (fun a x => (hf a x).1) l a,
    fun a' => Res.foldlM_inv f (fun x => x.data = d ∧ x.endian = e)
      (fun b x b' hb hs => hb.1 ▸ hb.2 ▸ (hf b x).2 b' hs) l a a' h⟩

theorem parse_keepsFrame (c : Codec) (e : Endian) (bytes : Bytes) :
    KeepsFrame (slice bytes 0x20 (e.dec (slice bytes 4 4))) e (parse c e bytes) := by
  unfold parse
  split
  · exact keepsFrame_err _ _ _
  · simp only []
    split
    · exact keepsFrame_err _ _ _
    · split
      · rename_i a1 h1
        exact foldlM_keepsFrame _ (fun a x => parseLabel_keepsFrame c e bytes _ a _) _ a1
          ((foldlM_keepsFrame _ (fun a x => parsePointer_keepsFrame c e bytes _ a _) _ _ ⟨rfl, rfl⟩).2 a1 h1)
      · exact keepsFrame_err _ _ _
      · rename_i h
        exact absurd h
          (foldlM_keepsFrame _ (fun a x => parsePointer_keepsFrame c e bytes _ a _) _ _ ⟨rfl, rfl⟩).1

theorem parse_ne_panic (c : Codec) (e : Endian) (bytes : Bytes) : parse c e bytes ≠ .panic :=
  (parse_keepsFrame c e bytes).1

theorem parse_data {c : Codec} {e : Endian} {bytes : Bytes} {a : BinArchive}
    (h : parse c e bytes = .ok a) : a.data = slice bytes 0x20 (e.dec (slice bytes 4 4)) :=
  ((parse_keepsFrame c e bytes).2 a h).1

theorem parse_endian {c : Codec} {e : Endian} {bytes : Bytes} {a : BinArchive}
    (h : parse c e bytes = .ok a) : a.endian = e :=
  ((parse_keepsFrame c e bytes).2 a h).2

end Mila.BinArchive
