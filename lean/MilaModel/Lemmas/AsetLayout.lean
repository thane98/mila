/-
C17: the declarative cell layout of an animation-set archive, the flag-bit facts, and the proof
that `from_archive` returns the file's value on *every* archive that shows this layout (a set of
257 entries comes back exactly: `setVal_eq`).
-/
import MilaModel.Model.Aset
import MilaModel.Lemmas.AsetCells
import MilaModel.Lemmas.AsetBits

namespace Mila.Aset
open Mila BinArchive Layered

theorem setFlags_eq (s : List (Option Str)) (i : Nat) :
    setFlags s i = orFold (fun bit => present s (i * 32 + bit + 1) = true) (List.range 32) 0 := rfl

theorem mainFlags_eq (s : List (Option Str)) :
    mainFlags s = orFold (fun g => setFlags s g ≠ 0) (List.range 8) 0 := rfl

theorem bitSet_eq (flags bit : Nat) : bitSet flags bit = flags.testBit bit :=
  and_shift_ne_zero flags bit

theorem bitSet_setFlags (s : List (Option Str)) (i j : Nat) (hj : j < 32) :
    bitSet (setFlags s i) j = present s (i * 32 + j + 1) := by
  rw [bitSet_eq, setFlags_eq, testBit_orFold]
  simp [hj]

theorem bitSet_mainFlags (s : List (Option Str)) (i : Nat) (hi : i < 8) :
    bitSet (mainFlags s) i = decide (setFlags s i ≠ 0) := by
  rw [bitSet_eq, mainFlags_eq, testBit_orFold]
  simp [hi]

theorem setFlags_lt (s : List (Option Str)) (i : Nat) : setFlags s i < 2 ^ 32 := by
  rw [setFlags_eq]; exact orFold_lt _ _ 32 (fun b hb => List.mem_range.1 hb)

theorem mainFlags_lt (s : List (Option Str)) : mainFlags s < 2 ^ 32 := by
  rw [mainFlags_eq]
  have := orFold_lt (fun g => setFlags s g ≠ 0) (List.range 8) 8 (fun b hb => List.mem_range.1 hb)
  omega

theorem setFlags_eq_zero (s : List (Option Str)) (i : Nat) :
    setFlags s i = 0 ↔ ∀ j, j < 32 → present s (i * 32 + j + 1) = false := by
  rw [setFlags_eq, orFold_eq_zero_iff]
  simp only [List.mem_range, Bool.not_eq_true]

theorem present_eq (s : List (Option Str)) (k : Nat) : present s k = (s[k]?).join.isSome := by
  unfold present
  cases s[k]? with
  | none => rfl
  | some o => cases o <;> rfl

theorem present_iff (s : List (Option Str)) (k : Nat) :
    present s k = true ↔ ∃ v, (s[k]?).join = some v := by
  rw [present_eq, Option.isSome_iff_exists]

theorem present_false_iff (s : List (Option Str)) (k : Nat) :
    present s k = false ↔ (s[k]?).join = none := by
  rw [present_eq, Option.isSome_eq_false_iff, Option.isNone_iff_eq_none]

/-- Cells of the present slots `j .. j+n` of group `i`. -/
def slotCells (s : List (Option Str)) (i : Nat) : Nat → Nat → List Cell
  | 0, _ => []
  | n + 1, j =>
    match (s[i * 32 + j + 1]?).join with
    | some v => .str (some v) :: slotCells s i n (j + 1)
    | none => slotCells s i n (j + 1)

/-- Values of the slots `j .. j+n` of group `i` (absent or out of range: `none`). -/
def slotVals (s : List (Option Str)) (i : Nat) : Nat → Nat → List (Option Str)
  | 0, _ => []
  | n + 1, j => (s[i * 32 + j + 1]?).join :: slotVals s i n (j + 1)

def groupCells (s : List (Option Str)) (i : Nat) : List Cell :=
  if setFlags s i ≠ 0 then .raw (leBytes 4 (setFlags s i)) :: slotCells s i 32 0 else []

def groupsCells (s : List (Option Str)) : Nat → Nat → List Cell
  | 0, _ => []
  | n + 1, i => groupCells s i ++ groupsCells s n (i + 1)

def groupsVals (s : List (Option Str)) : Nat → Nat → List (Option Str)
  | 0, _ => []
  | n + 1, i => slotVals s i 32 0 ++ groupsVals s n (i + 1)

/-- The cells of a set: main flag word, then per non-empty group its flag word and its names. -/
def setCells (s : List (Option Str)) : List Cell :=
  .raw (leBytes 4 (mainFlags s)) :: groupsCells s 8 0

/-- The value `from_archive` rebuilds for a set: its label and its 256 slots. -/
def setVal (s : List (Option Str)) : List (Option Str) := (s[0]?).join :: groupsVals s 8 0

theorem slotVals_eq (s : List (Option Str)) (i : Nat) :
    ∀ (n j : Nat), slotVals s i n j = (List.range' j n).map (fun j => (s[i * 32 + j + 1]?).join) := by
  intro n
  induction n with
  | zero => intro j; rfl
  | succ n ih => intro j; simp [slotVals, List.range'_succ, ih]

theorem groupsVals_eq (s : List (Option Str)) :
    ∀ (n i : Nat), groupsVals s n i
      = ((List.range' i n).flatMap (fun g => (List.range' 0 32).map (fun j => g * 32 + j + 1))).map
          (fun k => (s[k]?).join) := by
  intro n
  induction n with
  | zero => intro i; rfl
  | succ n ih =>
    intro i
    simp only [groupsVals, List.range'_succ, List.flatMap_cons, List.map_append, ih, slotVals_eq,
      List.map_map]
    rfl

theorem slotIndex_eq :
    (List.range' 0 8).flatMap (fun g => (List.range' 0 32).map (fun j => g * 32 + j + 1))
      = List.range' 1 256 := by decide +kernel

theorem map_getElem?_join (s : List (Option Str)) :
    (List.range' 0 s.length).map (fun k => (s[k]?).join) = s := by
  apply List.ext_getElem?
  intro k
  by_cases hk : k < s.length
  · rw [List.getElem?_map, List.getElem?_range' (by omega)]
    simp [List.getElem?_eq_getElem hk]
  · rw [List.getElem?_eq_none (by simpa using hk), List.getElem?_eq_none (by simpa using hk)]

theorem setVal_eq (s : List (Option Str)) (h : s.length = 257) : setVal s = s := by
  have h1 := map_getElem?_join s
  rw [h, show (257 : Nat) = 256 + 1 from rfl, List.range'_succ, List.map_cons] at h1
  unfold setVal
  rw [groupsVals_eq, slotIndex_eq]
  exact h1

theorem sets_map_setVal (sets : List (List (Option Str))) (h : ∀ s ∈ sets, s.length = 257) :
    sets.map setVal = sets :=
  (List.map_congr_left fun s hs => setVal_eq s (h s hs)).trans (List.map_id' sets)

theorem slotVals_absent (s : List (Option Str)) (i : Nat) :
    ∀ (n j : Nat), (∀ j', j ≤ j' → j' < j + n → present s (i * 32 + j' + 1) = false) →
      slotVals s i n j = List.replicate n none := by
  intro n
  induction n with
  | zero => intro j _; rfl
  | succ n ih =>
    intro j h
    simp only [slotVals, List.replicate_succ]
    rw [(present_false_iff _ _).1 (h j (Nat.le_refl _) (by omega)), ih (j + 1) (fun j' h1 h2 => h j' (by omega) (by omega))]

theorem readSlots_layout (b : BinArchive) (s : List (Option Str)) (i flags : Nat) :
    ∀ (n j p : Nat), (∀ j', j ≤ j' → j' < j + n → bitSet flags j' = present s (i * 32 + j' + 1)) →
      cellsAt b p (slotCells s i n j) →
      readSlots b flags n j ⟨p⟩ = .ok (slotVals s i n j, ⟨p + 4 * (slotCells s i n j).length⟩) := by
  intro n
  induction n with
  | zero => intro j p _ _; simp [readSlots, slotVals, slotCells]
  | succ n ih =>
    intro j p hb hc
    have hbit := hb j (Nat.le_refl _) (by omega)
    have hb' : ∀ j', j + 1 ≤ j' → j' < j + 1 + n → bitSet flags j' = present s (i * 32 + j' + 1) :=
      fun j' h1 h2 => hb j' (by omega) (by omega)
    unfold readSlots
    cases hv : (s[i * 32 + j + 1]?).join with
    | some v =>
      simp only [slotCells, hv] at hc ⊢
      simp only [hbit, present_eq, hv, Option.isSome_some, if_true, readString_str hc.1,
        ih (j + 1) (p + 4) hb' hc.2, slotVals, List.length_cons, Res.ok.injEq, Prod.mk.injEq,
        Reader.mk.injEq, true_and]
      omega
    | none =>
      simp only [slotCells, hv] at hc ⊢
      rw [hbit, present_eq, hv, Option.isSome_none, if_neg (by simp), ih (j + 1) p hb' hc]
      simp only [slotVals, hv]

theorem readGroups_layout (b : BinArchive) (s : List (Option Str)) (he : b.endian = .little) :
    ∀ (n i p : Nat), i + n ≤ 8 → cellsAt b p (groupsCells s n i) →
      readGroups b (mainFlags s) n i ⟨p⟩
        = .ok (groupsVals s n i, ⟨p + 4 * (groupsCells s n i).length⟩) := by
  intro n
  induction n with
  | zero => intro i p _ _; simp [readGroups, groupsVals, groupsCells]
  | succ n ih =>
    intro i p hi hc
    unfold readGroups
    rw [bitSet_mainFlags s i (by omega)]
    by_cases hz : setFlags s i = 0
    · simp only [groupsCells, groupCells, groupsVals, hz, ne_eq, not_true_eq_false, decide_false,
        Bool.false_eq_true, if_false, List.nil_append] at hc ⊢
      rw [ih (i + 1) p (by omega) hc,
        slotVals_absent s i 32 0 (fun j' _ h2 => (setFlags_eq_zero s i).1 hz j' (by omega))]
    · simp only [groupsCells, groupCells, groupsVals, ne_eq, hz, not_false_eq_true, decide_true,
        if_true, List.cons_append] at hc ⊢
      obtain ⟨hc1, hc2⟩ := hc
      rw [cellsAt_append] at hc2
      simp only [readU32_raw he hc1, ofLe_leBytes_of_lt (k := 4) (setFlags_lt s i),
        readSlots_layout b s i (setFlags s i) 32 0 (p + 4)
          (fun j' _ h2 => bitSet_setFlags s i j' (by omega)) hc2.1,
        ih (i + 1) _ (by omega) hc2.2, List.length_cons, List.length_append, Res.ok.injEq,
        Prod.mk.injEq, Reader.mk.injEq, true_and]
      omega

/-- First label of the bucket at `p`, as `read_label(0)` returns it. -/
def labelAt (b : BinArchive) (p : Nat) : Option Str :=
  match b.labels.get p with
  | some bucket => bucket[0]?
  | none => none

theorem readLabel_at {b : BinArchive} {p : Nat} (h : p + 4 ≤ b.size) :
    Reader.readLabel b ⟨p⟩ 0 = .ok (labelAt b p) := by
  unfold Reader.readLabel BinArchive.readLabels labelAt
  simp only [validateCell_ok (by decide : 0 < 4) h]
  cases b.labels.get p <;> rfl

theorem readSet_layout (b : BinArchive) (s : List (Option Str)) (he : b.endian = .little) (p : Nat)
    (hc : cellsAt b p (setCells s)) :
    readSet b ⟨p⟩ = .ok (labelAt b p :: groupsVals s 8 0, ⟨p + 4 * (setCells s).length⟩) := by
  unfold setCells at hc
  obtain ⟨hc1, hc2⟩ := hc
  simp only [readSet, readLabel_at hc1.1, readU32_raw he hc1,
    ofLe_leBytes_of_lt (k := 4) (mainFlags_lt s), readGroups_layout b s he 8 0 (p + 4) (by omega) hc2,
    setCells, List.length_cons, Res.ok.injEq, Prod.mk.injEq, Reader.mk.injEq, true_and]
  omega

def setsCells (sets : List (List (Option Str))) : List Cell := sets.flatMap setCells

/-- Every set's first label is the set's entry 0. -/
def labelsAt (b : BinArchive) : Nat → List (List (Option Str)) → Prop
  | _, [] => True
  | p, s :: rest => labelAt b p = (s[0]?).join ∧ labelsAt b (p + 4 * (setCells s).length) rest

theorem setCells_length_pos (s : List (Option Str)) : 0 < (setCells s).length := by
  simp [setCells]

theorem readSets_layout (b : BinArchive) (he : b.endian = .little) :
    ∀ (sets : List (List (Option Str))) (p : Nat) (acc : List (List (Option Str))),
      b.size = p + 4 * (setsCells sets).length → labelsAt b p sets → cellsAt b p (setsCells sets) →
      readSets b ⟨p⟩ acc = .ok (acc ++ sets.map setVal) := by
  intro sets
  induction sets with
  | nil =>
    intro p acc hs _ _
    rw [readSets]
    simp only [setsCells, List.flatMap_nil, List.length_nil, Nat.mul_zero, Nat.add_zero] at hs
    simp [hs]
  | cons s rest ih =>
    intro p acc hs hl hc
    simp only [setsCells, List.flatMap_cons, List.length_append] at hs hc
    rw [cellsAt_append] at hc
    have hpos := setCells_length_pos s
    have hread := readSet_layout b s he p hc.1
    rw [readSets]
    have hlt : p < b.size := by omega
    simp only [hlt, if_true]
    rw [hread]
    simp only
    rw [ih (p + 4 * (setCells s).length) _ (by simp only [setsCells]; omega) hl.2 hc.2]
    simp only [List.map_cons, List.append_assoc, List.singleton_append, setVal, hl.1]

def headerCells (f : ASetFile) : List Cell :=
  [.raw (leBytes 4 4), .str f.metaStr, .raw (leBytes 4 0x100)] ++ f.animClipTable.map .str

def fileCells (f : ASetFile) : List Cell := headerCells f ++ setsCells f.sets

/-- The declarative layout of an animation-set archive holding `f`.  Only lookups are mentioned
(size, bytes of raw cells, string per cell, label bucket per address), so that the layout is
carried along `SameContent`. -/
structure Layout (f : ASetFile) (b : BinArchive) : Prop where
  little : b.endian = .little
  size : b.size = 4 * (fileCells f).length
  cells : cellsAt b 0 (fileCells f)
  table : ∃ bucket, b.labels.get 12 = some bucket ∧ tableLabel ∈ bucket
  lowest : ∀ x, b.labels.get x ≠ none → 12 ≤ x
  labels : labelsAt b (4 * (headerCells f).length) f.sets

theorem findLabelAddress_lowest (b : BinArchive) (t : Str) (k : Nat)
    (h1 : ∃ bucket, b.labels.get k = some bucket ∧ t ∈ bucket)
    (h2 : ∀ x, b.labels.get x ≠ none → k ≤ x) : b.findLabelAddress t = some k := by
  obtain ⟨bucket, hb, ht⟩ := h1
  unfold BinArchive.findLabelAddress
  rw [List.min?_eq_some_iff]
  constructor
  · simp only [List.mem_map, List.mem_filter]
    exact ⟨(k, bucket), ⟨UMap.mem_of_get hb, by simpa using ht⟩, rfl⟩
  · intro x hx
    simp only [List.mem_map, List.mem_filter] at hx
    obtain ⟨⟨x', bk⟩, ⟨hm, _⟩, rfl⟩ := hx
    exact h2 x' (UMap.get_ne_none_of_mem hm)

theorem readTable_layout (b : BinArchive) :
    ∀ (t : List (Option Str)) (p : Nat), cellsAt b p (t.map .str) →
      readTable b t.length ⟨p⟩ = .ok (t, ⟨p + 4 * t.length⟩) := by
  intro t
  induction t with
  | nil => intro p _; simp [readTable]
  | cons x t ih =>
    intro p hc
    simp only [List.map_cons] at hc
    simp only [List.length_cons, readTable, readString_str hc.1, ih (p + 4) hc.2, Res.ok.injEq,
      Prod.mk.injEq, Reader.mk.injEq, true_and]
    omega

/-- **Reader correctness**: on every archive with the layout of `f`, `from_archive` returns `f`
(with each set rebuilt as label + 256 slots). -/
theorem fromArchive_layout (f : ASetFile) (b : BinArchive) (hlen : f.animClipTable.length = 257)
    (h : Layout f b) : fromArchive b = .ok ⟨f.metaStr, f.animClipTable, f.sets.map setVal⟩ := by
  have hc := h.cells
  unfold fileCells headerCells at hc
  rw [cellsAt_append, cellsAt_append] at hc
  obtain ⟨⟨hc1, hc2⟩, hc3⟩ := hc
  have hmeta : cellAt b 4 (.str f.metaStr) := hc1.2.1
  simp only [List.length_cons, List.length_nil, List.length_append, List.length_map] at hc2 hc3
  have ht := readTable_layout b f.animClipTable 12 (by simpa using hc2)
  rw [hlen] at ht
  have hsz : b.size = 12 + 4 * 257 + 4 * (setsCells f.sets).length := by
    rw [h.size]; simp only [fileCells, headerCells, List.length_append, List.length_cons,
      List.length_nil, List.length_map, hlen]
    omega
  have hl := h.labels
  simp only [headerCells, List.length_append, List.length_cons, List.length_nil, List.length_map, hlen] at hl
  simp [fromArchive, findLabelAddress_lowest b tableLabel 12 h.table h.lowest, Reader.skip,
    readString_str hmeta, Reader.seek, ht,
    readSets_layout b h.little f.sets (12 + 4 * 257) [] hsz hl (by rw [hlen] at hc3; simpa using hc3)]

theorem labelsAt_transfer {a b : BinArchive} (h : SameContent a b) :
    ∀ (sets : List (List (Option Str))) (p : Nat), labelsAt a p sets → labelsAt b p sets := by
  intro sets
  induction sets with
  | nil => intro _ _; trivial
  | cons s rest ih =>
    intro p hl
    refine ⟨?_, ih _ hl.2⟩
    have := hl.1
    unfold labelAt at this ⊢
    rw [h.labels]; exact this

theorem Layout.transfer {f : ASetFile} {a b : BinArchive} (hp : Plain a) (hl : Layout f a)
    (h : SameContent a b) : Layout f b := by
  refine ⟨by rw [h.endian]; exact hl.little, by rw [h.size]; exact hl.size,
    cellsAt_transfer hp h _ 0 (by decide) hl.cells, ?_, ?_, labelsAt_transfer h _ _ hl.labels⟩
  · obtain ⟨bk, h1, h2⟩ := hl.table
    exact ⟨bk, by rw [h.labels]; exact h1, h2⟩
  · intro x hx; rw [h.labels] at hx; exact hl.lowest x hx

end Mila.Aset
