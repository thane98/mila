/-
C19 glue: the specification's byte readers `leAt`, `be16At` are the model's `leN`, `beN`, and the
format dispatch `decode_pixel_data` on the format numbers of the property.
-/
import MilaModel.Lemmas.PixelTile
import MilaModel.Lemmas.PixelEtc
import MilaModel.Spec.Linear

namespace Mila.Pixel

theorem leAt_eq (d : Buf) (pos n : Nat) : Spec.Linear.leAt d pos n = d.leN pos n := by
  induction n generalizing pos with
  | zero => rfl
  | succ n ih => simp only [Spec.Linear.leAt, Buf.leN, Buf.byteAt, ih]

theorem be16At_eq (d : Buf) (o : Nat) : Spec.Linear.be16At d o = d.beN o 2 := by
  simp [Spec.Linear.be16At, Buf.beN, Buf.byteAt]

theorem decodePixelData_tiled (p : Profile) (data : Buf) (w h fmt : Nat) (hf : fmt ≤ 11) :
    decodePixelData p data w h fmt = decodeRgba p data w h fmt := by
  simp [decodePixelData, hf]

theorem decodePixelData_etc (p : Profile) (data : Buf) (w h fmt : Nat) (hf : fmt = 12 ∨ fmt = 13) :
    decodePixelData p data w h fmt = Etc1.decode p data w h (decide (fmt = 13)) := by
  have : ¬ fmt ≤ 11 := by omega
  simp [decodePixelData, this, hf]

end Mila.Pixel
