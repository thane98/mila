/-
C20, CTPK: a conforming file is read as the packed textures (symbolic execution of `ctpkProg`
against `Spec.Tex.ConformsCtpk`), with the read high-water mark above every payload.
-/
import MilaModel.Lemmas.TexSpec

namespace Mila.Containers
open Prog Spec.Tex

theorem ctpkHeader_run (f : Buf) (h : 0x20 ≤ f.size) :
    ∃ hi, run ctpkHeader f ⟨0, [], 0⟩ = .ok ((f.leN 6 2, f.leN 8 4), ⟨0x20, [], hi⟩) := by
  exec [ctpkHeader]
  exact ⟨_, rfl⟩

/-- What `TextureInfo::new` returns for the entry at `e`. -/
def ctpkInfoAt (f : Buf) (e : Nat) : CtpkInfo :=
  ⟨f.leN e 4, f.leN (e + 8) 4, f.leN (e + 12) 4, f.leN (e + 16) 2, f.leN (e + 18) 2⟩

theorem ctpkInfo_run (f : Buf) (e : Nat) (ns : List Bytes) (hi : Nat) (h : e + 0x20 ≤ f.size) :
    ∃ hi', run ctpkInfo f ⟨e, ns, hi⟩ = .ok (ctpkInfoAt f e, ⟨e + 0x20, ns, hi'⟩) := by
  exec [ctpkInfo]
  exact ⟨_, rfl⟩

theorem ctpkTexture_run (p : Profile) (f : Buf) (base e : Nat) (t : Tex) (s : St)
    (hent : ctpkEntry f base e t = true) (hvalid : valid3ds t = true)
    (hname : decodeName .sjis t.stored = some t.name) :
    ∃ s', run (ctpkTexture p base (ctpkInfoAt f e)) f s = .ok ((t.width, t.height, pixelsOf p t), s') ∧
      s'.names = t.name :: s.names ∧ base + f.leN (e + 8) 4 + t.payload.size ≤ s'.hi := by
  simp only [ctpkEntry, Bool.and_eq_true, decide_eq_true_eq, beq_iff_eq, u32At_eq, u16At_eq] at hent
  obtain ⟨⟨⟨⟨⟨⟨_, hcstr⟩, hsum⟩, hbytes⟩, hfmt⟩, hwid⟩, hhei⟩ := hent
  obtain ⟨o, ns, hi⟩ := s
  exec [ctpkTexture, ctpkInfoAt, readName_run hcstr hname, hfmt, hwid, hhei,
    readAndDecode_run p t hvalid hbytes]
  exact ⟨_, rfl, rfl, by apply Nat.le_max_right⟩

theorem ctpk_full (p : Profile) (f : Buf) (texs : List Tex)
    (hc : ConformsCtpk (decodeName .sjis) f texs = true) :
    ∃ raws sf, run (ctpkProg p) f ⟨0, [], 0⟩ = .ok (raws, sf) ∧
      assemble sf.names.reverse raws = texs.map (unpack p) ∧
      ∀ i t, texs[i]? = some t → ctpkPayloadAt f i + t.payload.size ≤ sf.hi := by
  simp only [ConformsCtpk, Bool.and_eq_true, decide_eq_true_eq, beq_iff_eq, u16At_eq, u32At_eq] at hc
  obtain ⟨⟨⟨⟨hsize, h20⟩, hlen16⟩, hcount⟩, hall⟩ := hc
  have hent := allIdx_spec _ texs 0 hall
  simp only [Nat.zero_add, Bool.and_eq_true, beq_iff_eq] at hent
  obtain ⟨hi0, hhdr⟩ := ctpkHeader_run f h20
  obtain ⟨hi1, hinfos⟩ :=
    repeatN_run ctpkInfo f (fun i => ctpkInfoAt f (0x20 + 0x20 * i)) 0x20 0x20 texs.length [] (by
      intro i hi hlt
      have he := (hent i _ (List.getElem?_eq_getElem hlt)).1.1
      simp only [ctpkEntry, Bool.and_eq_true, decide_eq_true_eq] at he
      exact ctpkInfo_run f _ [] hi (by omega)) hi0
  obtain ⟨raws, sf, hraws, hasm, hH⟩ :=
    textures_run p (ctpkTexture p (f.leN 8 4)) f (fun i t => ctpkPayloadAt f i + t.payload.size)
      ((List.range texs.length).map fun i => ctpkInfoAt f (0x20 + 0x20 * i)) texs
      ⟨0x20 + 0x20 * texs.length, [], hi1⟩ rfl (by rw [List.length_map, List.length_range]) (by
        intro i info t s hi ht
        obtain ⟨⟨he1, he2⟩, he3⟩ := hent i t ht
        rw [eq_of_map_range hi]
        simpa only [ctpkPayloadAt, u32At_eq] using ctpkTexture_run p f _ _ t s he1 he2 he3)
  refine ⟨raws, sf, ?_, hasm, hH⟩
  exec [ctpkProg, run_bind_ok hhdr, hcount, run_bind_ok hinfos, hraws]

end Mila.Containers
