/-
C20: the reader language of `Model/Containers.lean`. By induction on `Prog`: sequencing, the prefix
simulation `run_prefix`, and `run_invariant`, from which the read high-water mark never exceeds the
data length and never decreases. Then the step equations of the primitives on an explicit state
`⟨pos, names, hi⟩`, which the tactic `exec` applies to straight-line reader code, and one rule for the
loop `mapM'`, run against the list of things the specification says are stored (`repeatN` and
`forIdx` are instances of `mapM'`).
-/
import MilaModel.Model.Containers

namespace Mila.Containers
open Prog

theorem bind_eq {α β : Type} (p : Prog α) (f : α → Prog β) : (p >>= f) = p.bind f := rfl
theorem pure_eq {α : Type} (a : α) : (pure a : Prog α) = .ret a := rfl

theorem run_bind {α β : Type} (p : Prog α) (f : α → Prog β) (d : Buf) (s : St) :
    run (p.bind f) d s =
      match run p d s with
      | .ok (a, s') => run (f a) d s'
      | .err e => .err e
      | .panic => .panic := by
  induction p generalizing s with
  | ret a => simp [Prog.bind, run]
  | fail e => simp [Prog.bind, run]
  | panic => simp [Prog.bind, run]
  | read n k ih =>
    simp only [Prog.bind, run]
    split
    · exact ih _ s
    · split
      · exact ih _ _
      · rfl
  | getPos k ih => simp only [Prog.bind, run]; exact ih _ s
  | setPos p k ih => simp only [Prog.bind, run]; exact ih _
  | name enc k ih =>
    simp only [Prog.bind, run]
    split
    · rfl
    · exact ih _

theorem ret_bind {α β : Type} (a : α) (f : α → Prog β) : (Prog.ret a >>= f) = f a := rfl

theorem bind_assoc {α β γ : Type} (p : Prog α) (g : α → Prog β) (k : β → Prog γ) :
    (p >>= g) >>= k = p >>= fun x => g x >>= k := by
  simp only [bind_eq]
  induction p with
  | ret a => rfl
  | fail e => rfl
  | panic => rfl
  | read n k0 ih => simp only [Prog.bind, ih]
  | getPos k0 ih => simp only [Prog.bind, ih]
  | setPos p k0 ih => simp only [Prog.bind, ih]
  | name enc k0 ih => simp only [Prog.bind, ih]

/-- state after a successful non-empty read of `n` bytes -/
def St.rd (s : St) (n : Nat) : St := { s with pos := s.pos + n, hi := max s.hi (s.pos + n) }
/-- state after a seek -/
def St.seek (s : St) (p : Nat) : St := { s with pos := p }
/-- state after a name was logged -/
def St.nm (s : St) (x : Bytes) : St := { s with names := x :: s.names }

@[simp] theorem St.rd_pos (s : St) (n : Nat) : (s.rd n).pos = s.pos + n := rfl
@[simp] theorem St.rd_names (s : St) (n : Nat) : (s.rd n).names = s.names := rfl
@[simp] theorem St.rd_hi (s : St) (n : Nat) : (s.rd n).hi = max s.hi (s.pos + n) := rfl
@[simp] theorem St.seek_pos (s : St) (p : Nat) : (s.seek p).pos = p := rfl
@[simp] theorem St.seek_names (s : St) (p : Nat) : (s.seek p).names = s.names := rfl
@[simp] theorem St.seek_hi (s : St) (p : Nat) : (s.seek p).hi = s.hi := rfl
@[simp] theorem St.nm_pos (s : St) (x : Bytes) : (s.nm x).pos = s.pos := rfl
@[simp] theorem St.nm_names (s : St) (x : Bytes) : (s.nm x).names = x :: s.names := rfl
@[simp] theorem St.nm_hi (s : St) (x : Bytes) : (s.nm x).hi = s.hi := rfl

theorem size_extract_zero (d : Buf) (k : Nat) (hk : k ≤ d.size) : (d.extract 0 k).size = k := by
  simp [Array.size_extract]; omega

theorem extract_extract_zero (d : Buf) (k a b : Nat) (hb : b ≤ k) :
    (d.extract 0 k).extract a b = d.extract a b := by
  simp only [Array.extract_extract, Nat.zero_add]
  congr 1; omega

/-- Prefix simulation. A run that completes on the full data, replayed on the first `k` bytes from
a state with the same position and high-water mark, fails with an error or completes with the same
result, position and mark; the names may differ. -/
theorem run_prefix {α : Type} (prog : Prog α) (d : Buf) (k : Nat) (hk : k ≤ d.size) (s' s s1 : St)
    (a : α) (hpos : s'.pos = s.pos) (hhi : s'.hi = s.hi) (h : run prog d s = .ok (a, s1)) :
    (∃ e, run prog (d.extract 0 k) s' = .err e) ∨
    ∃ s1', run prog (d.extract 0 k) s' = .ok (a, s1') ∧ s1'.pos = s1.pos ∧ s1'.hi = s1.hi := by
  induction prog generalizing s' s with
  | ret a0 => cases h; exact Or.inr ⟨s', rfl, hpos, hhi⟩
  | fail e => cases h
  | panic => cases h
  | read n kont ih =>
    simp only [run] at h ⊢
    split at h
    · rw [if_pos ‹_›]; exact ih _ s' s hpos hhi h
    · rw [if_neg ‹_›]
      split at h
      · split
        · rename_i hfit'
          rw [size_extract_zero d k hk] at hfit'
          rw [extract_extract_zero d k _ _ hfit', hpos]
          exact ih _ _ _ (by simp) (by simp [hhi]) h
        · exact Or.inl ⟨_, rfl⟩
      · cases h
  | getPos kont ih => simp only [run] at h ⊢; rw [hpos]; exact ih _ s' s hpos hhi h
  | setPos p kont ih => exact ih (s'.seek p) (s.seek p) rfl hhi h
  | name enc kont ih =>
    simp only [run] at h ⊢
    split at h
    · cases h
    · split
      · exact Or.inl ⟨_, rfl⟩
      · exact ih (s'.nm _) (s.nm _) hpos hhi h

theorem run_invariant {α : Type} (P : St → Prop) (d : Buf)
    (hrd : ∀ s n, s.pos + n ≤ d.size → P s → P (s.rd n)) (hseek : ∀ s p, P s → P (s.seek p))
    (hnm : ∀ s x, P s → P (s.nm x)) (prog : Prog α) (s s1 : St) (a : α)
    (h : run prog d s = .ok (a, s1)) (hs : P s) : P s1 := by
  induction prog generalizing s with
  | ret a0 => simp only [run, Res.ok.injEq, Prod.mk.injEq] at h; exact h.2 ▸ hs
  | fail e => simp [run] at h
  | panic => simp [run] at h
  | read n kont ih =>
    simp only [run] at h
    split at h
    · exact ih _ s h hs
    · split at h
      · exact ih _ _ h (hrd s n ‹_› hs)
      · simp at h
  | getPos kont ih => exact ih _ s h hs
  | setPos p kont ih => exact ih _ h (hseek s p hs)
  | name enc kont ih =>
    simp only [run] at h
    split at h
    · simp at h
    · exact ih _ h (hnm s _ hs)

theorem run_hi_le {α : Type} (prog : Prog α) (d : Buf) (s s1 : St) (a : α)
    (h : run prog d s = .ok (a, s1)) (hs : s.hi ≤ d.size) : s1.hi ≤ d.size :=
  run_invariant (fun t => t.hi ≤ d.size) d (fun t n hfit ht => by simp; omega) (fun _ _ ht => ht)
    (fun _ _ ht => ht) prog s s1 a h hs

theorem run_hi_mono {α : Type} (prog : Prog α) (d : Buf) (s s1 : St) (a : α)
    (h : run prog d s = .ok (a, s1)) : s.hi ≤ s1.hi :=
  run_invariant (fun t => s.hi ≤ t.hi) d (fun t n _ ht => by simp; omega) (fun _ _ ht => ht)
    (fun _ _ ht => ht) prog s s1 a h (Nat.le_refl _)

/-- What every `prefix_safe` theorem rests on: the first `k` bytes are read without a panic, and
with an error when the run on the full data has read beyond `k`. -/
theorem prefix_outcome {α : Type} (prog : Prog α) (d : Buf) (k : Nat) (hk : k ≤ d.size) (a : α) (sf : St)
    (hfull : run prog d ⟨0, [], 0⟩ = .ok (a, sf)) :
    run prog (d.extract 0 k) ⟨0, [], 0⟩ ≠ .panic ∧
    (k < sf.hi → ∃ e, run prog (d.extract 0 k) ⟨0, [], 0⟩ = .err e) := by
  rcases run_prefix prog d k hk ⟨0, [], 0⟩ ⟨0, [], 0⟩ sf a rfl rfl hfull with
    ⟨e, he⟩ | ⟨s', hs', _, hhi⟩
  · exact ⟨by simp [he], fun _ => ⟨e, he⟩⟩
  · refine ⟨by simp [hs'], fun hlt => ?_⟩
    have := run_hi_le prog (d.extract 0 k) ⟨0, [], 0⟩ s' a hs' (by simp)
    rw [size_extract_zero d k hk] at this
    omega

theorem byteAt_extract (d : Buf) (a b i : Nat) (h : a + i < b) (hb : b ≤ d.size) :
    Buf.byteAt (d.extract a b) i = d.byteAt (a + i) := by
  simp only [Buf.byteAt, Array.getD_eq_getD_getElem?, Array.getElem?_extract]
  have : i < min b d.size - a := by omega
  simp [this]

theorem leN_extract (d : Buf) (a b i n : Nat) (h : a + i + n ≤ b) (hb : b ≤ d.size) :
    Buf.leN (d.extract a b) i n = d.leN (a + i) n := by
  induction n generalizing i with
  | zero => rfl
  | succ n ih =>
    simp only [Buf.leN]
    rw [byteAt_extract d a b i (by omega) hb, ih (i + 1) (by omega)]
    rfl

theorem beN_extract (d : Buf) (a b i n : Nat) (h : a + i + n ≤ b) (hb : b ≤ d.size) :
    Buf.beN (d.extract a b) i n = d.beN (a + i) n := by
  induction n generalizing i with
  | zero => rfl
  | succ n ih =>
    simp only [Buf.beN]
    rw [byteAt_extract d a b i (by omega) hb, ih (i + 1) (by omega)]
    rfl

theorem run_readBytes_zero (d : Buf) (s : St) : run (readBytes 0) d s = .ok (#[], s) := by
  simp [readBytes, run]

theorem run_bind_ok {α β : Type} {p : Prog α} {f : α → Prog β} {d : Buf} {s s' : St} {a : α}
    (h : run p d s = .ok (a, s')) : run (p >>= f) d s = run (f a) d s' := by
  rw [bind_eq, run_bind, h]

theorem add32_ok (p : Profile) (a b : Nat) (h : a + b < 2 ^ 32) : add32 p a b = .ok (a + b) := by
  simp [add32, addN, h]

theorem mul32_ok (p : Profile) (a b : Nat) (h : a * b < 2 ^ 32) : mul32 p a b = .ok (a * b) := by
  simp [mul32, mulN, h]

-- Each step equation is about a primitive followed by the rest `k` of the program: the form `exec`
-- meets at the head of `run` once the program is re-associated.  Those that hold by computation are
-- proved `by rfl`, not by the term `rfl`: `simp` rewrites with a theorem whose proof is the term
-- `rfl` without recording a step, and the kernel then has to find out again that the two sides agree,
-- by evaluating `run` on the whole rest of the program at every such step.
variable {α : Type} (d : Buf) (o : Nat) (ns : List Bytes) (hi : Nat)

theorem run_ret (a : α) (s : St) : run (Prog.ret a) d s = .ok (a, s) := rfl
theorem run_lift_ok (a : α) (s : St) : run (lift (.ok a)) d s = .ok (a, s) := rfl

theorem run_read (n : Nat) (k : Buf → Prog α) (hn : 0 < n) (hfit : o + n ≤ d.size) :
    run (.read n k) d ⟨o, ns, hi⟩ = run (k (d.extract o (o + n))) d ⟨o + n, ns, max hi (o + n)⟩ := by
  have : n ≠ 0 := by omega
  simp [run, this, hfit]

theorem run_read_eof {β : Type} (n : Nat) (g : Buf → Prog β) (k : β → Prog α) (hn : 0 < n)
    (hfit : d.size < o + n) : run ((.read n g) >>= k) d ⟨o, ns, hi⟩ = .err .Eof := by
  have h1 : n ≠ 0 := by omega
  have h2 : ¬ o + n ≤ d.size := by omega
  simp [bind_eq, Prog.bind, run, h1, h2]

theorem run_readBytes (n : Nat) (k : Buf → Prog α) (hn : 0 < n) (hfit : o + n ≤ d.size) :
    run (readBytes n >>= k) d ⟨o, ns, hi⟩ =
      run (k (d.extract o (o + n))) d ⟨o + n, ns, max hi (o + n)⟩ :=
  run_read d o ns hi n _ hn hfit

theorem run_read_val (n : Nat) (g : Buf → Nat) (v : Nat) (k : Nat → Prog α) (hn : 0 < n)
    (hfit : o + n ≤ d.size) (hv : g (d.extract o (o + n)) = v) :
    run ((.read n fun b => .ret (g b)) >>= k) d ⟨o, ns, hi⟩ =
      run (k v) d ⟨o + n, ns, max hi (o + n)⟩ :=
  hv ▸ run_read d o ns hi n _ hn hfit

theorem run_u8 (k : Nat → Prog α) (hfit : o + 1 ≤ d.size) :
    run (u8 >>= k) d ⟨o, ns, hi⟩ = run (k (d.leN o 1)) d ⟨o + 1, ns, max hi (o + 1)⟩ :=
  run_read_val d o ns hi 1 _ _ k (by omega) hfit (leN_extract d o (o + 1) 0 1 (by omega) hfit)
theorem run_u16le (k : Nat → Prog α) (hfit : o + 2 ≤ d.size) :
    run (u16le >>= k) d ⟨o, ns, hi⟩ = run (k (d.leN o 2)) d ⟨o + 2, ns, max hi (o + 2)⟩ :=
  run_read_val d o ns hi 2 _ _ k (by omega) hfit (leN_extract d o (o + 2) 0 2 (by omega) hfit)
theorem run_u32le (k : Nat → Prog α) (hfit : o + 4 ≤ d.size) :
    run (u32le >>= k) d ⟨o, ns, hi⟩ = run (k (d.leN o 4)) d ⟨o + 4, ns, max hi (o + 4)⟩ :=
  run_read_val d o ns hi 4 _ _ k (by omega) hfit (leN_extract d o (o + 4) 0 4 (by omega) hfit)
theorem run_u16be (k : Nat → Prog α) (hfit : o + 2 ≤ d.size) :
    run (u16be >>= k) d ⟨o, ns, hi⟩ = run (k (d.beN o 2)) d ⟨o + 2, ns, max hi (o + 2)⟩ :=
  run_read_val d o ns hi 2 _ _ k (by omega) hfit (beN_extract d o (o + 2) 0 2 (by omega) hfit)
theorem run_u32be (k : Nat → Prog α) (hfit : o + 4 ≤ d.size) :
    run (u32be >>= k) d ⟨o, ns, hi⟩ = run (k (d.beN o 4)) d ⟨o + 4, ns, max hi (o + 4)⟩ :=
  run_read_val d o ns hi 4 _ _ k (by omega) hfit (beN_extract d o (o + 4) 0 4 (by omega) hfit)

theorem run_seekStart (n : Nat) (k : Unit → Prog α) :
    run (seekStart n >>= k) d ⟨o, ns, hi⟩ = run (k ()) d ⟨n, ns, hi⟩ := by rfl
theorem run_skip (n : Nat) (k : Unit → Prog α) :
    run (skip n >>= k) d ⟨o, ns, hi⟩ = run (k ()) d ⟨o + n, ns, hi⟩ := by rfl
theorem run_position (k : Nat → Prog α) :
    run (position >>= k) d ⟨o, ns, hi⟩ = run (k o) d ⟨o, ns, hi⟩ := by rfl
theorem run_lift {β : Type} (b : β) (k : β → Prog α) (s : St) :
    run (lift (.ok b) >>= k) d s = run (k b) d s := by rfl
theorem run_add32 (p : Profile) (a b : Nat) (k : Nat → Prog α) (s : St) (h : a + b < 2 ^ 32) :
    run (lift (add32 p a b) >>= k) d s = run (k (a + b)) d s := by rw [add32_ok p a b h]; rfl
theorem run_mul32 (p : Profile) (a b : Nat) (k : Nat → Prog α) (s : St) (h : a * b < 2 ^ 32) :
    run (lift (mul32 p a b) >>= k) d s = run (k (a * b)) d s := by rw [mul32_ok p a b h]; rfl
theorem run_require_true (e : Err) (k : Unit → Prog α) (s : St) :
    run (require true e >>= k) d s = run (k ()) d s := by rfl
theorem run_require_false (e : Err) (k : Unit → Prog α) (s : St) :
    run (require false e >>= k) d s = .err e := by rfl
theorem run_require (P : Prop) [Decidable P] (e : Err) (k : Unit → Prog α) (s : St) (h : P) :
    run (require (decide P) e >>= k) d s = run (k ()) d s := by
  rw [decide_eq_true h]; rfl
theorem run_ite_pos (c : Prop) [Decidable c] (p q : Prog α) (s : St) (h : c) :
    run (if c then p else q) d s = run p d s := by rw [if_pos h]
theorem run_ite_neg (c : Prop) [Decidable c] (p q : Prog α) (s : St) (h : ¬c) :
    run (if c then p else q) d s = run q d s := by rw [if_neg h]
theorem run_bind_assoc {β γ : Type} (p : Prog γ) (g : γ → Prog β) (k : β → Prog α) (s : St) :
    run ((p >>= g) >>= k) d s = run (p >>= fun x => g x >>= k) d s := by rw [bind_assoc]

theorem run_readName (enc : NameEnc) (k : Unit → Prog α) {str : Bytes}
    (h : decodeName enc (rawName d o) = some str) :
    run (readName enc >>= k) d ⟨o, ns, hi⟩ = run (k ()) d ⟨o, str :: ns, hi⟩ := by
  simp only [bind_eq, readName, Prog.bind, run, h]

/-- A reader that begins by reading a four-byte number (`g` decodes it, `v` is its value in `f`) and
comparing it with its magic number `M` returns `Eof` on a file of fewer than four bytes and
`BadMagic` on one that begins with another number. -/
theorem run_bad_magic {β γ : Type} (g : Buf → Nat) (M v : Nat) (h : Nat → Prog β) (k : β → Prog γ)
    (f : Buf) (hg : 0 + 4 ≤ f.size → g (f.extract 0 (0 + 4)) = v) (hv : f.size < 4 ∨ v ≠ M) :
    run (((Prog.read 4 fun b => .ret (g b)) >>= fun m => require (m = M) .BadMagic >>= fun _ => h m) >>= k)
      f ⟨0, [], 0⟩ = .err (if f.size < 4 then .Eof else .BadMagic) := by
  rw [bind_assoc]
  by_cases h4 : f.size < 4
  · rw [if_pos h4, run_read_eof f 0 [] 0 4 _ _ (by omega) (by omega)]
  · have hfit : 0 + 4 ≤ f.size := by omega
    rw [if_neg h4, run_read_val f 0 [] 0 4 g v _ (by omega) hfit (hg hfit), bind_assoc,
      decide_eq_false (hv.resolve_left h4)]
    rfl

open Lean.Parser.Tactic in
/-- Symbolic execution of straight-line reader code from an explicit state `⟨pos, names, hi⟩`.
The rules in brackets (definitions of the programs, `run_bind_ok h` for a sub-program run `h`, what
the specification says about a field) are used throughout.  First the program is unfolded and
re-associated; then the step equations are applied at the head of `run`, before `simp` looks at the
rest of the program (`↓`; descending into the continuations is slow), `omega` showing that each
read fits in the data and each 32-bit sum stays below `2 ^ 32`. -/
macro "exec" " [" ls:simpLemma,* "]" : tactic =>
  `(tactic| (simp -failIfUnchanged only [pure_eq, ret_bind, bind_assoc, $ls,*]) <;>
    simp (disch := omega) only [↓ run_u8, ↓ run_u16le, ↓ run_u32le, ↓ run_u16be, ↓ run_u32be,
      ↓ run_readBytes, ↓ run_seekStart, ↓ run_skip, ↓ run_position, ↓ run_lift, ↓ run_add32,
      ↓ run_mul32, ↓ run_require, ↓ run_ite_pos, ↓ run_ite_neg, ↓ run_bind_assoc, run_ret,
      run_lift_ok, run_require_true, add32_ok, Nat.add_assoc, Nat.reduceAdd, Nat.zero_add, $ls,*])

theorem nameLen_eq (d : Buf) (len : Nat) : ∀ (pos fuel : Nat), pos + len < d.size → len < fuel →
    (∀ i, i < len → d.getD (pos + i) 0 ≠ 0) → d.getD (pos + len) 0 = 0 → nameLen d pos fuel = len := by
  induction len with
  | zero =>
    intro pos fuel _ hfuel _ hz
    cases fuel with
    | zero => omega
    | succ f => rw [nameLen, if_neg (fun h => h.2 hz)]
  | succ n ih =>
    intro pos fuel hfit hfuel hnz hz
    cases fuel with
    | zero => omega
    | succ f =>
      rw [nameLen, if_pos ⟨by omega, hnz 0 (by omega)⟩,
        ih (pos + 1) f (by omega) (by omega)
          (fun i hi => by rw [Nat.add_right_comm, Nat.add_assoc]; exact hnz (i + 1) (by omega))
          (by rw [Nat.add_right_comm, Nat.add_assoc]; exact hz)]

theorem repeatN_eq_mapM' (p : Prog α) (n : Nat) :
    repeatN p n = mapM' (fun _ : Unit => p) (List.replicate n ()) := by
  induction n with
  | zero => rfl
  | succ n ih => simp only [repeatN, List.replicate_succ, mapM', ih]

theorem forIdx_eq_mapM' (g : Nat → Prog β) (n k : Nat) : forIdx g n k = mapM' g (List.range' k n) := by
  induction n generalizing k with
  | zero => rfl
  | succ n ih => simp only [forIdx, List.range'_succ, mapM', ih]

/-- The loop rule, against a specification list `ts`: `I i` holds of the state before item `i`;
the item for `t` returns `val t` and reads up to `H i t`.  The loop returns `ts.map val` and has read
up to every `H i t` (the high-water mark only grows). -/
theorem mapM'_run {γ : Type} (g : α → Prog β) (f : Buf) (val : γ → β) (H : Nat → γ → Nat)
    (xs : List α) (ts : List γ) (I : Nat → St → Prop) (s : St) (hlen : xs.length = ts.length) (h0 : I 0 s)
    (hstep : ∀ i x t s, xs[i]? = some x → ts[i]? = some t → I i s →
      ∃ s', run (g x) f s = .ok (val t, s') ∧ I (i + 1) s' ∧ H i t ≤ s'.hi) :
    ∃ s', run (mapM' g xs) f s = .ok (ts.map val, s') ∧ I ts.length s' ∧
      ∀ i t, ts[i]? = some t → H i t ≤ s'.hi := by
  induction ts generalizing xs s H I with
  | nil =>
    cases xs with
    | nil => exact ⟨s, rfl, h0, by simp⟩
    | cons _ _ => simp at hlen
  | cons t ts ih =>
    cases xs with
    | nil => simp at hlen
    | cons x xs =>
      obtain ⟨s1, h1, hi1, hH1⟩ := hstep 0 x t s rfl rfl h0
      obtain ⟨s2, h2, hi2, hH2⟩ := ih (fun i => H (i + 1)) xs (fun i => I (i + 1)) s1
        (by simpa using hlen) hi1
        (fun i y u s hy hu => hstep (i + 1) y u s (by simpa using hy) (by simpa using hu))
      have hmono := run_hi_mono _ _ _ _ _ h2
      refine ⟨s2, ?_, hi2, ?_⟩
      · simp only [mapM', run_bind, h1, h2]; rfl
      · intro i u hu
        cases i with
        | zero => simp at hu; subst hu; omega
        | succ j => exact hH2 j u (by simpa using hu)

theorem eq_of_range {n i j : Nat} (h : (List.range n)[i]? = some j) : i < n ∧ i = j := by
  obtain ⟨hl, h⟩ := List.getElem?_eq_some_iff.mp h
  rw [List.length_range] at hl
  exact ⟨hl, by rw [← h, List.getElem_range]⟩

theorem eq_of_map_range {v : Nat → α} {n i : Nat} {a : α} (h : ((List.range n).map v)[i]? = some a) :
    a = v i := by
  obtain ⟨_, h⟩ := List.getElem?_eq_some_iff.mp h
  rw [← h, List.getElem_map, List.getElem_range]

/-- `repeatN p n` over records of `stride` bytes from `base` on: run `i` starts at record `i`, stops
at record `i + 1`, returns `v i` and leaves the names alone. -/
theorem repeatN_run (p : Prog α) (f : Buf) (v : Nat → α) (stride base n : Nat) (ns : List Bytes)
    (hstep : ∀ i hi, i < n → ∃ hi', run p f ⟨base + stride * i, ns, hi⟩ =
      .ok (v i, ⟨base + stride * i + stride, ns, hi'⟩)) (hi : Nat) :
    ∃ hi', run (repeatN p n) f ⟨base, ns, hi⟩ =
      .ok ((List.range n).map v, ⟨base + stride * n, ns, hi'⟩) := by
  obtain ⟨⟨o', ns', hi'⟩, hr, ⟨hp, hn⟩, _⟩ := mapM'_run (fun _ : Unit => p) f v (fun _ _ => 0)
    (List.replicate n ()) (List.range n) (fun i s => s.pos = base + stride * i ∧ s.names = ns)
    ⟨base, ns, hi⟩ (by rw [List.length_replicate, List.length_range]) ⟨rfl, rfl⟩ (by
      intro i _ j ⟨o, ns0, hi⟩ _ hj ⟨hp, hn⟩
      obtain ⟨hlt, rfl⟩ := eq_of_range hj
      obtain ⟨hi', h⟩ := hstep i hi hlt
      dsimp only at hp hn
      subst hp hn
      exact ⟨_, h, ⟨by rw [Nat.mul_succ, Nat.add_assoc], rfl⟩, Nat.zero_le _⟩)
  simp only [List.length_range] at hp hn
  subst hp hn
  exact ⟨hi', by rw [repeatN_eq_mapM', hr]⟩

end Mila.Containers
