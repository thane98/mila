/-
Decoder simulation lemmas (C11): the model of `decompress_lz` against the stream grammar.
Everything about the bytes of a reference is stated once, about `decodeRef`: it inverts `tokBytes`
in both directions, and the specification's parser reads the same fields.  The decoder returns the
expansion on every conforming stream, never panics, and rejects short input and unknown type bytes.
-/
import MilaModel.Model.Lz
import MilaModel.Spec.LzStream
import MilaModel.Lemmas.LzBasic

namespace Mila.Lz
open Mila.Spec.Lz

theorem copyLoop_eq (start D k i : Nat) (out : BA) (h1 : 1 ≤ D) (h3 : start + i + D = out.size) :
    copyLoop start k i out = .ok (copyBack out D k) := by
  fun_induction copyLoop start k i out with
  | case1 => rfl
  | case2 k i out hlt ih =>
    have hidx : out.size - D = start + i := by omega
    rw [copyBack, hidx, Array.getD_eq_getD_getElem?, Array.getElem?_eq_getElem hlt]
    exact ih (by simp; omega)
  | case3 => omega

theorem copyLoop_ok (start k i : Nat) (out : BA) (h : start + i < out.size) :
    ∃ o, copyLoop start k i out = .ok o :=
  ⟨_, copyLoop_eq start (out.size - start - i) k i out (by omega) (by omega)⟩

theorem flag_test (flags k : Nat) : ((flags >>> k) &&& 1 = 0) ↔ flags.testBit k = false := by
  simp [Nat.testBit, Nat.and_comm]

theorem decodeRef_tokBytes (ext : Bool) (len disp : Nat) (rest : Bytes)
    (hl : lenOk ext len) (hd1 : 1 ≤ disp) (hd2 : disp ≤ 4096) :
    decodeRef ext (tokBytes ext (.ref len disp) ++ rest) = some (len, disp - 1, rest) := by
  obtain ⟨d, rfl⟩ : ∃ d, disp = d + 1 := ⟨disp - 1, by omega⟩
  obtain ⟨h, l, hl8, rfl⟩ := digits 256 d (by decide)
  have hh : h < 16 := by omega
  have el := toNat_ofNat_lt hl8
  -- per length form: `len` in the digits of `tokBytes_lz10`/`_short`/`_mid`/`_long`, which `decodeRef`
  -- reads back by `radix`
  cases ext with
  | false =>
    obtain ⟨h3, h18⟩ : 3 ≤ len ∧ len ≤ 18 := hl
    obtain ⟨a, rfl⟩ : ∃ a, len = a + 3 := ⟨len - 3, by omega⟩
    simp only [tokBytes_lz10 a h l hl8, decodeRef, next, List.cons_append, List.nil_append,
      toNat_nib a h (by omega) hh, el, radix 16 a h hh, Bool.not_false, ↓reduceIte, Nat.add_sub_cancel]
  | true =>
    obtain ⟨h3, hmax⟩ : 3 ≤ len ∧ len ≤ 65808 := hl
    by_cases h16 : len ≤ 16
    · obtain ⟨a, rfl⟩ : ∃ a, len = a + 1 := ⟨len - 1, by omega⟩
      have ha2 : 1 < a := by omega
      simp only [tokBytes_short a h l (by omega) hl8, decodeRef, next, List.cons_append, List.nil_append,
        toNat_nib a h (by omega) hh, el, radix 16 a h hh, Bool.not_true, Bool.false_eq_true, ↓reduceIte,
        ha2, Nat.add_sub_cancel]
    · by_cases h272 : len ≤ 272
      · obtain ⟨v, rfl⟩ : ∃ v, len = v + 17 := ⟨len - 17, by omega⟩
        obtain ⟨v1, v0, hv0, rfl⟩ := digits 16 v (by decide)
        have hv1 : v1 < 16 := by omega
        simp only [tokBytes_mid v1 v0 h l hv1 hv0 hl8, decodeRef, next, List.cons_append, List.nil_append,
          toNat_ofNat_lt (Nat.lt_trans hv1 (by decide)), toNat_nib v0 h hv0 hh, el, Nat.div_eq_of_lt hv1,
          Nat.mod_eq_of_lt hv1, radix 16 v0 h hh, Bool.not_true,
          Bool.false_eq_true, ↓reduceIte, Nat.not_lt_zero, Nat.add_sub_cancel]
      · obtain ⟨v, rfl⟩ : ∃ v, len = v + 273 := ⟨len - 273, by omega⟩
        obtain ⟨w, v0, hv0, rfl⟩ := digits 16 v (by decide)
        obtain ⟨v2, v1, hv1, rfl⟩ := digits 256 w (by decide)
        have hv2 : v2 < 16 := by omega
        simp only [tokBytes_long v2 v1 v0 h l hv1 hv0 hl8, decodeRef, next, List.cons_append,
          List.nil_append, toNat_nib 1 v2 (by decide) hv2, toNat_ofNat_lt hv1, toNat_nib v0 h hv0 hh, el,
          radix 16 1 v2 hv2, radix 16 v0 h hh, Bool.not_true, Bool.false_eq_true, ↓reduceIte,
          Nat.lt_irrefl, Nat.one_ne_zero, Nat.add_sub_cancel, Option.some.injEq, Prod.mk.injEq, and_true]
        omega

theorem decodeRef_sound (ext : Bool) (s r : Bytes) (len d : Nat)
    (h : decodeRef ext s = some (len, d, r)) :
    s = tokBytes ext (.ref len (d + 1)) ++ r ∧ lenOk ext len ∧ d < 4096 := by
  rcases s with _ | ⟨b0, _ | ⟨b1, s⟩⟩
  · simp [decodeRef, next] at h
  · simp [decodeRef, next] at h
  · have hb0 := b0.toNat_lt
    have hb1 := b1.toNat_lt
    have hm : b0.toNat % 16 < 16 := Nat.mod_lt _ (by decide)
    -- per length form: the fields read are the digits of the same four lemmas, and `nib` puts the
    -- bytes together again
    cases ext with
    | false =>
      simp only [decodeRef, next, Bool.not_false, ↓reduceIte] at h
      obtain ⟨rfl, rfl, rfl⟩ := h
      rw [tokBytes_lz10 _ _ _ hb1, nib, UInt8.ofNat_toNat]
      exact ⟨rfl, show (3 ≤ _ ∧ _ ≤ 18) ∧ _ < 4096 by omega⟩
    | true =>
      simp only [decodeRef, next, Bool.not_true, Bool.false_eq_true, ↓reduceIte] at h
      by_cases h2 : 1 < b0.toNat / 16
      · simp only [h2, ↓reduceIte] at h
        obtain ⟨rfl, rfl, rfl⟩ := h
        rw [tokBytes_short _ _ _ (by omega) hb1, nib, UInt8.ofNat_toNat]
        exact ⟨rfl, show (3 ≤ _ ∧ _ ≤ 65808) ∧ _ < 4096 by omega⟩
      · by_cases h0 : b0.toNat / 16 = 0
        · rcases s with _ | ⟨b2, s⟩
          · simp [h0] at h
          · simp only [h0, ↓reduceIte] at h
            obtain ⟨rfl, rfl, rfl⟩ := h
            have hb2 := b2.toNat_lt
            have e0 : UInt8.ofNat (b0.toNat % 16) = b0 := by
              rw [Nat.mod_eq_of_lt (by omega)]; exact UInt8.ofNat_toNat
            rw [tokBytes_mid _ _ _ _ hm (by omega) hb2, nib, UInt8.ofNat_toNat, e0]
            exact ⟨rfl, show (3 ≤ _ ∧ _ ≤ 65808) ∧ _ < 4096 by omega⟩
        · rcases s with _ | ⟨b2, _ | ⟨b3, s⟩⟩
          · simp [h2, h0] at h
          · simp [h2, h0] at h
          · simp only [h2, h0, ↓reduceIte] at h
            obtain ⟨rfl, rfl, rfl⟩ := h
            have hb2 := b2.toNat_lt
            have hb3 := b3.toNat_lt
            have e0 : UInt8.ofNat (16 + b0.toNat % 16) = b0 := by
              have := nib b0
              rwa [show b0.toNat / 16 = 1 by omega] at this
            rw [show b0.toNat % 16 * 4096 + b1.toNat * 16 = (b0.toNat % 16 * 256 + b1.toNat) * 16 by omega,
              tokBytes_long _ _ _ _ _ hb1 (by omega) hb3, nib, UInt8.ofNat_toNat, UInt8.ofNat_toNat, e0]
            exact ⟨rfl, show (3 ≤ _ ∧ _ ≤ 65808) ∧ _ < 4096 by omega⟩

theorem parseTok_ref (ext : Bool) (have_ : Nat) (s : Bytes) :
    parseTok ext true have_ s =
      match decodeRef ext s with
      | none => .error .truncated
      | some (len, d, r) => if d + 1 ≤ have_ then .ok (.ref len (d + 1), r) else .error .refBeforeStart := by
  rcases s with _ | ⟨b0, _ | ⟨b1, s⟩⟩
  · rfl
  · rfl
  · cases ext with
    | false => rfl
    | true =>
      simp only [parseTok, decodeRef, next, Bool.not_true, Bool.false_eq_true, ↓reduceIte, ge_iff_le, gt_iff_lt]
      by_cases h2 : 2 ≤ b0.toNat / 16
      · rw [if_pos h2, if_pos (show 1 < _ from h2)]
      · rw [if_neg h2, if_neg (show ¬ 1 < _ from h2)]
        by_cases h0 : b0.toNat / 16 = 0
        · rw [if_pos h0, if_pos h0]
          cases s <;> rfl
        · rw [if_neg h0, if_neg h0]
          rcases s with _ | ⟨b2, _ | ⟨b3, s⟩⟩ <;> rfl

theorem expandFrom_cons (out : BA) (t : Tok) (ts : List Tok) :
    expandFrom out (t :: ts) = expandFrom (expandFrom out [t]) ts :=
  expandFrom_append out [t] ts

/-- One round of the bit loop while the announced length is not reached, by the flag bit
(lz13.rs:73 tests it as `(flags >> bit_no) & 1`). -/
theorem bitLoop_succ (ext : Bool) (length flags k : Nat) (s : Bytes) (out : BA)
    (hlive : out.size < length) :
    bitLoop ext length flags (k + 1) s out =
      bif flags.testBit k then
        match decodeRef ext s with
        | none => .err .Invalid
        | some (count, disp, s) =>
          if disp ≥ out.size then .err .Invalid
          else
            match copyLoop (out.size - disp - 1) count 0 out with
            | .ok out => bitLoop ext length flags k s out
            | .err e => .err e
            | .panic => .panic
      else
        match next s with
        | none => .err .Invalid
        | some (b, s) => bitLoop ext length flags k s (out.push (UInt8.ofNat b)) := by
  rw [bitLoop, if_neg (Nat.not_le.2 hlive)]
  cases h : flags.testBit k with
  | false =>
    rw [if_pos ((flag_test flags k).2 h)]
    rfl
  | true =>
    rw [if_neg (by rw [flag_test, h]; exact Bool.noConfusion)]
    rfl

theorem bitLoop_tok (ext : Bool) (length flags k : Nat) (rest : Bytes) (out : BA) (t : Tok)
    (hlive : out.size < length) (hflag : flags.testBit k = t.isRef)
    (hv : ValidFrom ext out.size [t]) :
    bitLoop ext length flags (k + 1) (tokBytes ext t ++ rest) out
      = bitLoop ext length flags k rest (expandFrom out [t]) := by
  rw [bitLoop_succ ext length flags k _ out hlive, hflag]
  cases t with
  | lit b => simp [Tok.isRef, tokBytes, next, expandFrom]
  | ref len disp =>
    obtain ⟨hl, hd1, hd2, hd3, _⟩ := hv
    have hnot : ¬ (out.size ≤ disp - 1) := by omega
    simp only [Tok.isRef, cond_true, decodeRef_tokBytes ext len disp rest hl hd1 hd2, ge_iff_le, hnot,
      ↓reduceIte, copyLoop_eq (out.size - (disp - 1) - 1) disp len 0 out hd1 (by omega), expandFrom]

/-- First token of a group to be decoded from bit `k - 1` of `flags` on: what `bitLoop_tok` asks
for `t`, and the same hypotheses again for `ts` behind it.  A valid token produces at least one
byte, so the announced length is not yet reached. -/
theorem group_cons {ext : Bool} {length flags k : Nat} {out : BA} {t : Tok} {ts : List Tok}
    (hk : (t :: ts).length ≤ k) (hn : out.size + tsize (t :: ts) ≤ length)
    (hv : ValidFrom ext out.size (t :: ts)) (hfl : FlagOkAt k flags (t :: ts)) :
    ∃ k', k = k' + 1 ∧ out.size < length ∧ flags.testBit k' = t.isRef ∧ ValidFrom ext out.size [t] ∧
      ts.length ≤ k' ∧ (expandFrom out [t]).size + tsize ts ≤ length ∧
      ValidFrom ext (expandFrom out [t]).size ts ∧ FlagOkAt k' flags ts := by
  obtain ⟨k', rfl⟩ : ∃ k', k = k' + 1 := ⟨k - 1, by simp at hk; omega⟩
  have hp := tsize_pos_of_valid hv
  rw [tsize_cons] at hn
  rw [validFrom_cons] at hv
  rw [flagOkAt_cons] at hfl
  have hsz : (expandFrom out [t]).size = out.size + t.size := by simp [tsize]
  rw [hsz]
  exact ⟨k', rfl, by omega, hfl.1, hv.1, by simpa using hk, by omega, hv.2, hfl.2⟩

theorem bitLoop_group (ext : Bool) (length flags : Nat) (rest : Bytes) (g : List Tok) (k : Nat)
    (out : BA) (hk : g.length ≤ k) (hn : out.size + tsize g ≤ length)
    (hv : ValidFrom ext out.size g) (hfl : FlagOkAt k flags g) :
    bitLoop ext length flags k (g.flatMap (tokBytes ext) ++ rest) out
      = bitLoop ext length flags (k - g.length) rest (expandFrom out g) := by
  induction g generalizing k out with
  | nil => rfl
  | cons t ts ih =>
    obtain ⟨k', rfl, hlive, h0, hv0, hk', hn', hv', hfl'⟩ := group_cons hk hn hv hfl
    rw [List.flatMap_cons, List.append_assoc, bitLoop_tok ext length flags k' _ out t hlive h0 hv0,
      ih k' _ hk' hn' hv' hfl', expandFrom_cons out t ts, List.length_cons, Nat.add_sub_add_right]

theorem bitLoop_done (ext : Bool) (length flags k : Nat) (s : Bytes) (out : BA)
    (h : k = 0 ∨ length ≤ out.size) : bitLoop ext length flags k s out = .ok (s, out) := by
  cases k with
  | zero => simp [bitLoop]
  | succ k =>
    have : length ≤ out.size := by cases h with | inl h => omega | inr h => exact h
    rw [bitLoop]; simp [this]

theorem outerLoop_done (ext : Bool) (length : Nat) (s : Bytes) (out : BA) (h : length ≤ out.size) :
    outerLoop ext length s out = .ok out := by
  rw [outerLoop.eq_def]; simp [Nat.not_lt.2 h]

theorem outerLoop_cons (ext : Bool) (length : Nat) (f : UInt8) (s : Bytes) (out : BA)
    (hlt : out.size < length) :
    outerLoop ext length (f :: s) out =
      match bitLoop ext length f.toNat 8 s out with
      | .ok (s', out') => outerLoop ext length s' out'
      | .err e => .err e
      | .panic => .panic := by
  rw [outerLoop.eq_def]
  simp only [hlt, ↓reduceIte]
  split <;> simp [*]

theorem bitLoop_flag_group (ext : Bool) (n : Nat) (f : UInt8) (g : List Tok) (bs : Bytes) (out : BA)
    (hne : g ≠ []) (hlen : g.length ≤ 8) (hflag : FlagOk f g) (hv : ValidFrom ext out.size g)
    (hn : out.size + tsize g ≤ n) :
    out.size < n ∧ bitLoop ext n f.toNat 8 (g.flatMap (tokBytes ext) ++ bs) out
      = bitLoop ext n f.toNat (8 - g.length) bs (expandFrom out g) := by
  refine ⟨?_, bitLoop_group ext n f.toNat bs g 8 out hlen hn hv hflag⟩
  cases g with
  | nil => exact absurd rfl hne
  | cons t ts => have := tsize_pos_of_valid hv; rw [tsize_cons] at hn; omega

theorem outerLoop_group (ext : Bool) (n : Nat) (f : UInt8) (g : List Tok) (bs : Bytes) (out : BA)
    (hne : g ≠ []) (hlen : g.length ≤ 8) (hflag : FlagOk f g) (hv : ValidFrom ext out.size g)
    (hn : out.size + tsize g ≤ n) (hdone : g.length = 8 ∨ n ≤ out.size + tsize g) :
    outerLoop ext n (f :: (g.flatMap (tokBytes ext) ++ bs)) out
      = outerLoop ext n bs (expandFrom out g) := by
  obtain ⟨hlt, hgrp⟩ := bitLoop_flag_group ext n f g bs out hne hlen hflag hv hn
  rw [bitLoop_done ext n f.toNat _ bs _ (by simp; omega)] at hgrp
  rw [outerLoop_cons ext n f _ out hlt, hgrp]

theorem outerLoop_groups (ext : Bool) (n : Nat) (toks : List Tok) (body : Bytes)
    (hg : Groups ext toks body) :
    ∀ out : BA, ValidFrom ext out.size toks → out.size + tsize toks = n →
      outerLoop ext n body out = .ok (expandFrom out toks) := by
  induction hg with
  | nil => intro out _ hn; simp at hn; rw [outerLoop_done _ _ _ _ (by omega)]; simp [expandFrom]
  | group f g rest bs hne hlen hfull hflag hrest ih =>
    intro out hv hn
    rw [validFrom_append] at hv
    simp at hn
    have hdone : g.length = 8 ∨ n ≤ out.size + tsize g := by
      by_cases hr : rest = []
      · subst hr; simp at hn; omega
      · exact Or.inl (hfull hr)
    rw [outerLoop_group ext n f g bs out hne hlen hflag hv.1 (by omega) hdone, expandFrom_append]
    exact ih _ (by simpa using hv.2) (by simp; omega)

theorem readU32_tag (t : UInt8) (n : Nat) (body : Bytes) (hn : n < 2 ^ 24) :
    readU32 (t :: (leBytes 3 n ++ body)) = some (t.toNat + 256 * n, body) := by
  simp [leBytes, readU32, next, UInt8.toNat_ofNat']
  omega

theorem readU32_leBytes (n : Nat) (body : Bytes) (hn : n < 2 ^ 32) :
    readU32 (leBytes 4 n ++ body) = some (n, body) := by
  simp [leBytes, readU32, next, UInt8.toNat_ofNat']
  omega

theorem decompressLz_header (ext : Bool) (n : Nat) (body : Bytes)
    (hb : n < (if ext then 2 ^ 32 else 2 ^ 24)) :
    decompressLz (header ext n ++ body) = outerLoop ext n body #[] := by
  have h1 (t : Nat) : (t + 256 * n) % 256 = t % 256 := by omega
  have h2 (t : Nat) (ht : t < 256) : (t + 256 * n) / 256 = n := by omega
  cases ext with
  | false =>
    simp [decompressLz, header, readU32_tag _ n body hb, h1, h2]
  | true =>
    by_cases h0 : n = 0 ∨ 2 ^ 24 ≤ n
    · have hs : readU32 (0x11 :: 0 :: 0 :: 0 :: (leBytes 4 n ++ body)) = some (17, leBytes 4 n ++ body) := rfl
      simp [decompressLz, header, h0, hs, readU32_leBytes n body hb]
    · have hn0 : n ≠ 0 := by omega
      have h24 : ¬ 2 ^ 24 ≤ n := by omega
      simp [decompressLz, header, h24, readU32_tag _ n body (by omega), h1, h2, hn0]

theorem decompressLz_encodes (ext : Bool) (n : Nat) (toks : List Tok) (s : Bytes)
    (he : Encodes ext n toks s) (hv : Valid ext toks) (hn : (expand toks).size = n)
    (hb : n < (if ext then 2 ^ 32 else 2 ^ 24)) :
    decompressLz s = .ok (expand toks) := by
  obtain ⟨body, rfl, hg⟩ := he
  rw [decompressLz_header ext n body hb]
  exact outerLoop_groups ext n toks body hg #[] hv (by simpa using hn)

theorem decompressLz_conforms {ext : Bool} {toks : List Tok} {s : Bytes} (h : Conforms ext toks s) :
    decompressLz s = .ok (expand toks) :=
  decompressLz_encodes ext _ toks s h.2.1 h.1 rfl h.2.2

/-- A conforming stream has at least four bytes, and its type byte is neither the tag of the stored
form nor that of the wrapper, which `decompress13` looks for first (lz13.rs:247-252). -/
theorem conforms_shape {ext : Bool} {toks : List Tok} {s : Bytes} (h : Conforms ext toks s) :
    ∃ t a b c rest, s = t :: a :: b :: c :: rest ∧ t ≠ 0 ∧ t ≠ 0x13 := by
  obtain ⟨_, ⟨body, rfl, _⟩, _⟩ := h
  unfold header
  split
  · split
    · exact ⟨0x11, _, _, _, _, rfl, by decide, by decide⟩
    · exact ⟨0x11, _, _, _, _, rfl, by decide, by decide⟩
  · exact ⟨0x10, _, _, _, _, rfl, by decide, by decide⟩

theorem decompress13_conforms {ext : Bool} {toks : List Tok} {s : Bytes} (h : Conforms ext toks s) :
    decompress13 s = .ok (expand toks) := by
  obtain ⟨t, a, b, c, rest, rfl, h0, h13⟩ := conforms_shape h
  simp [decompress13, h0, h13, decompressLz_conforms h]

theorem bitLoop_ne_panic (ext : Bool) (length flags k : Nat) (s : Bytes) (out : BA) :
    bitLoop ext length flags k s out ≠ .panic := by
  fun_induction bitLoop ext length flags k s out with
  | case4 | case7 => assumption
  | case9 k s out _ _ count disp _ _ hd hp =>
    obtain ⟨o, ho⟩ := copyLoop_ok (out.size - disp - 1) count 0 out (by omega)
    rw [ho] at hp
    cases hp
  | _ => simp

theorem outerLoop_ne_panic (ext : Bool) (length : Nat) (s : Bytes) (out : BA) :
    outerLoop ext length s out ≠ .panic := by
  fun_induction outerLoop ext length s out with
  | case2 => assumption
  | case4 _ _ _ _ h => exact absurd h (bitLoop_ne_panic _ _ _ _ _ _)
  | _ => simp

theorem decompressLz_ne_panic (s : Bytes) : decompressLz s ≠ .panic := by
  fun_cases decompressLz s with
  | case4 | case5 => exact outerLoop_ne_panic _ _ _ _
  | _ => nofun

theorem readU32_short (s : Bytes) (h : s.length < 4) : readU32 s = none := by
  match s with
  | [] => simp [readU32, next]
  | [_] => simp [readU32, next]
  | [_, _] => simp [readU32, next]
  | [_, _, _] => simp [readU32, next]
  | _ :: _ :: _ :: _ :: _ => simp at h; omega

theorem decompressLz_short (s : Bytes) (h : s.length < 4) : decompressLz s = .err .Invalid := by
  simp [decompressLz, readU32_short s h]

theorem decompressLz_unknown_type (t : UInt8) (s : Bytes) (h10 : t ≠ 0x10) (h11 : t ≠ 0x11) :
    decompressLz (t :: s) = .err .Invalid := by
  by_cases hs : (t :: s).length < 4
  · exact decompressLz_short _ hs
  · match s, hs with
    | a :: b :: c :: s, _ =>
      have ht10 : t.toNat ≠ 16 := fun h => h10 (UInt8.toNat_inj.1 (by simpa using h))
      have ht11 : t.toNat ≠ 17 := fun h => h11 (UInt8.toNat_inj.1 (by simpa using h))
      have hlt := t.toNat_lt
      have hm : (t.toNat + a.toNat * 2 ^ 8 + b.toNat * 2 ^ 16 + c.toNat * 2 ^ 24) % 256 = t.toNat := by
        omega
      simp [decompressLz, readU32, next, hm, ht10, ht11]
    | [], hs => simp at hs
    | [_], hs => simp at hs
    | [_, _], hs => simp at hs

end Mila.Lz
