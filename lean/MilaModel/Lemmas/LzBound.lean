/-
Size bounds (C10): length of a flag-group encoding, the expansion bound, completeness of the
match search on periodic data and the resulting bound on what the greedy steps can be charged.
-/
import MilaModel.Lemmas.LzCompress

namespace Mila.Lz
open Mila.Spec.Lz

/-- Number of token bytes (without flag bytes). -/
def cost (ext : Bool) (toks : List Tok) : Nat := (toks.flatMap (tokBytes ext)).length

@[simp] theorem cost_nil (ext : Bool) : cost ext [] = 0 := rfl
theorem cost_append (ext : Bool) (a b : List Tok) : cost ext (a ++ b) = cost ext a + cost ext b := by
  simp [cost, List.flatMap_append]

/-- One flag byte per started group of eight tokens. -/
theorem groups_length {ext : Bool} {toks : List Tok} {body : Bytes} (h : Groups ext toks body) :
    body.length = cost ext toks + (toks.length + 7) / 8 := by
  induction h with
  | nil => simp
  | group f g rest bs hne hlen hfull hflag hrest ih =>
    rw [cost_append, List.length_cons, List.length_append, ih, List.length_append]
    have hg : g.length ≠ 0 := fun h => hne (List.eq_nil_of_length_eq_zero h)
    by_cases hr : rest = []
    · subst hr; simp [cost]; omega
    · have := hfull hr
      simp only [cost]
      omega

theorem cost_eq_sum (ext : Bool) (T : List Tok) :
    cost ext T = (T.map fun t => (tokBytes ext t).length).sum := List.length_flatMap ..

theorem length_eq_sum (T : List Tok) : T.length = (T.map fun _ => 1).sum := by
  rw [List.map_const', List.sum_replicate_nat, Nat.mul_one]

theorem post_size_eq {ext : Bool} {cap : Nat} {hdr : Bytes} {x : BA} {r : Res BA}
    (h : Post ext cap hdr x r) :
    ∃ out toks, r = .ok out ∧ out.size = hdr.length + cost ext toks + (toks.length + 7) / 8 ∧
      StepsTo x cap toks x.size := by
  obtain ⟨out, toks, body, h1, h2, h3, h4⟩ := h
  refine ⟨out, toks, h1, ?_, h4⟩
  rw [← Array.length_toList, h2, List.length_append, groups_length h3]
  omega

/-- Charge every literal 1 and every reference at most its length: the greedy steps up to `pos`
are charged at most `pos`.  (With the byte length of a token as charge this bounds the token
bytes, with charge 1 the number of tokens.) -/
theorem stepsTo_charge_le (x : BA) (cap : Nat) (w : Tok → Nat) (hw0 : ∀ b, w (.lit b) = 1)
    (hw2 : ∀ len disp, 3 ≤ len → w (.ref len disp) ≤ len) :
    ∀ (T : List Tok) (pos : Nat), StepsTo x cap T pos → (T.map w).sum ≤ pos := by
  intro T pos hs
  induction hs with
  | nil => simp
  | lit T pos len disp _ _ _ _ ih => simp [hw0]; omega
  | ref T pos len disp _ _ _ hl ih => have := hw2 len disp hl; simp; omega

/-- No token takes more bytes than it produces, so the output exceeds the input by the header and
the flag bytes at most. -/
theorem post_size_le {ext : Bool} {cap : Nat} {hdr : Bytes} {x : BA} {r : Res BA}
    (h : Post ext cap hdr x r) :
    ∃ out, r = .ok out ∧ out.size ≤ hdr.length + x.size + (x.size + 7) / 8 := by
  obtain ⟨out, toks, h1, h2, h3⟩ := post_size_eq h
  have hcost := stepsTo_charge_le x cap (fun t => (tokBytes ext t).length) (fun _ => rfl)
    (tokBytes_ref_le_len ext) toks _ h3
  have hlen := stepsTo_charge_le x cap (fun _ => 1) (fun _ => rfl) (fun _ _ h => by omega) toks _ h3
  rw [← cost_eq_sum] at hcost
  rw [← length_eq_sum] at hlen
  exact ⟨out, h1, by omega⟩

/-- `x` repeats with period `q`. -/
def Periodic (x : BA) (q : Nat) : Prop := ∀ i, i + q < x.size → x[i]? = x[i + q]?

theorem periodic_two {x : BA} (h : Periodic x 1) : Periodic x 2 := by
  intro i hi
  rw [h i (by omega), h (i + 1) (by omega)]

theorem search_complete (x : BA) (cap q pos len d : Nat) (hq2 : 2 ≤ q) (hq : q ≤ 4096)
    (hper : Periodic x q) (hpos : q ≤ pos) (hlt : pos < x.size) (hcap : 1 ≤ cap)
    (hs : search x cap pos = .ok (len, d)) : len = min (x.size - pos) cap := by
  unfold search occurrence at hs
  generalize hw : min pos 0x1000 = win at hs
  generalize hn : min (x.size - pos) cap = newLen at hs ⊢
  have hw1 : q ≤ win := by omega
  have hw2 : win ≤ pos := by omega
  have hn1 : 0 < newLen := by omega
  have hn2 : pos + newLen ≤ x.size := by omega
  clear hw hn
  rw [if_neg (by omega)] at hs
  refine occLoop_complete x pos newLen (pos - win) win (win - q) ?_ _ 0 0 0 len d (Nat.zero_le _)
    (by omega) hn1 hs
  -- the candidate one period back matches the whole look-ahead
  rw [Nat.sub_add_sub_cancel hw2 hw1, matchLen_full x (pos - q) pos newLen 0, Nat.zero_add]
  intro i _ hi
  refine ⟨by omega, by omega, ?_⟩
  rw [hper (pos - q + i) (by omega)]
  congr 1
  omega

/-- Consuming a full look-ahead `min rem L` lowers `⌈rem / L⌉` by one. -/
theorem ceilDiv_step (rem L : Nat) (hL : 1 ≤ L) (hrem : 1 ≤ rem) :
    (rem - min rem L + L - 1) / L + 1 ≤ (rem + L - 1) / L := by
  by_cases h : rem ≤ L
  · rw [Nat.min_eq_left h, Nat.sub_self, Nat.zero_add, Nat.div_eq_of_lt (by omega)]
    exact Nat.div_pos (by omega) (by omega)
  · have e : rem + L - 1 = rem - L + L - 1 + L := by omega
    rw [Nat.min_eq_right (by omega), e, Nat.add_div_right _ (by omega)]
    exact Nat.le_refl _

/-- On data of period `q`, once the first period is over every search returns the full
look-ahead `L`: what has been charged, plus `r` per `L` bytes still to come and the at most two
trailing literals, never grows (`rem` is what remains of the input). -/
theorem stepsTo_periodic (x : BA) (L q : Nat) (hq2 : 2 ≤ q) (hq : q ≤ 4096) (hper : Periodic x q)
    (hL : 3 ≤ L) (w : Tok → Nat) (r : Nat) (hr : 1 ≤ r) (hw0 : ∀ b, w (.lit b) = 1)
    (hw1 : ∀ len disp, w (.ref len disp) ≤ r) (hw2 : ∀ len disp, 3 ≤ len → w (.ref len disp) ≤ len) :
    ∀ (T : List Tok) (pos : Nat), StepsTo x L T pos → q ≤ pos → ∀ rem, pos + rem = x.size →
      (T.map w).sum + r * ((rem + L - 1) / L) + min rem 2
        ≤ q + 1 + r + r * ((x.size - q + L - 1) / L) := by
  intro T pos hs
  have mono : ∀ a b, a ≤ b → r * ((a + L - 1) / L) ≤ r * ((b + L - 1) / L) := fun a b h =>
    Nat.mul_le_mul_left r (Nat.div_le_div_right (by omega))
  induction hs with
  | nil => omega
  | lit T pos len disp h hst hsr hl ih =>
    intro hge rem hrem
    simp only [List.map_append, List.sum_append, List.map_cons, List.map_nil, List.sum_cons,
      List.sum_nil, hw0]
    by_cases hpq : pos < q
    · have := stepsTo_charge_le x L w hw0 hw2 T pos hst
      have := mono rem (x.size - q) (by omega)
      omega
    · have hc := search_complete x L q pos len disp hq2 hq hper (by omega) h (by omega) hsr
      have hlast : rem + 1 < 3 := by omega
      have := ih (by omega) (rem + 1) (by omega)
      have := mono rem (rem + 1) (by omega)
      omega
  | ref T pos len disp h hst hsr hl ih =>
    intro hge rem hrem
    simp only [List.map_append, List.sum_append, List.map_cons, List.map_nil, List.sum_cons,
      List.sum_nil]
    have c1 := hw1 len disp
    by_cases hpq : pos < q
    · have := stepsTo_charge_le x L w hw0 hw2 T pos hst
      have := mono rem (x.size - q) (by omega)
      omega
    · have hc := search_complete x L q pos len disp hq2 hq hper (by omega) h (by omega) hsr
      rw [show x.size - pos = len + rem by omega] at hc
      have := ih (by omega) (len + rem) (by omega)
      have step := Nat.mul_le_mul_left r (ceilDiv_step (len + rem) L (by omega) (by omega))
      rw [← hc, Nat.add_sub_cancel_left, Nat.mul_succ] at step
      clear hc
      omega

/-- An input of `n` bytes that repeats with a period `p ≤ 4096` compresses to at most the header,
`p + 2` literals, `⌈(n-p)/L⌉ + 1` back-references of at most `r` bytes and one flag byte per eight
tokens: the whole window and the full look-ahead `L` are used. -/
theorem post_periodic_size {ext : Bool} {L : Nat} {hdr : Bytes} {x : BA} {res : Res BA}
    (h : Post ext L hdr x res) (hL : 3 ≤ L) (r : Nat) (hr : 1 ≤ r)
    (hw1 : ∀ len disp, (tokBytes ext (.ref len disp)).length ≤ r)
    (p : Nat) (hp1 : 1 ≤ p) (hp : p ≤ 4096) (hper : Periodic x p) :
    ∃ out, res = .ok out ∧
      out.size ≤ hdr.length + (p + 2) + r * ((x.size - p + L - 1) / L + 1) +
        ((p + 2) + ((x.size - p + L - 1) / L + 1) + 7) / 8 := by
  obtain ⟨out, toks, h1, h2, h3⟩ := post_size_eq h
  refine ⟨out, h1, ?_⟩
  -- the search never looks at displacement 1, so period 1 is used as period 2
  obtain ⟨q, hq2, hq, hperq, hqp1, hqp2⟩ :
      ∃ q, 2 ≤ q ∧ q ≤ 4096 ∧ Periodic x q ∧ p ≤ q ∧ q ≤ p + 1 := by
    by_cases h : p = 1
    · subst h; exact ⟨2, by omega, by omega, periodic_two hper, by omega, by omega⟩
    · exact ⟨p, by omega, hp, hper, by omega, by omega⟩
  have total : ∀ (w : Tok → Nat) (r : Nat), 1 ≤ r → (∀ b, w (.lit b) = 1) →
      (∀ len disp, w (.ref len disp) ≤ r) → (∀ len disp, 3 ≤ len → w (.ref len disp) ≤ len) →
      (toks.map w).sum ≤ p + 2 + r * ((x.size - p + L - 1) / L + 1) := by
    intro w r hr hw0 hw1 hw2
    have := Nat.mul_le_mul_left r (Nat.div_le_div_right (c := L)
      (show x.size - q + L - 1 ≤ x.size - p + L - 1 by omega))
    rw [Nat.mul_succ]
    by_cases hn : x.size < q
    · have := stepsTo_charge_le x L w hw0 hw2 toks x.size h3
      omega
    · have := stepsTo_periodic x L q hq2 hq hperq hL w r hr hw0 hw1 hw2 toks x.size h3 (by omega) 0 rfl
      omega
  have hcost := total (fun t => (tokBytes ext t).length) r hr (fun _ => rfl) hw1
    (tokBytes_ref_le_len ext)
  have hlen := total (fun _ => 1) 1 (Nat.le_refl 1) (fun _ => rfl) (fun _ _ => Nat.le_refl 1)
    (fun _ _ h => by omega)
  rw [← cost_eq_sum] at hcost
  rw [← length_eq_sum, Nat.one_mul] at hlen
  rw [h2]
  omega

end Mila.Lz
