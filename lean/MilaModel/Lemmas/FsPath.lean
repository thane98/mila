/- Path strings: the specification's domain (`Spec.Overlay.locOf`) against the model's path walk
(`LayeredFs.parsePath`).  Used by C12 / C13. -/
import MilaModel.Model.LayeredFs
import MilaModel.Spec.OverlayFs
import MilaModel.Lemmas.Split

namespace Mila.LayeredFs
open Mila.Localize (slash dot)

@[simp] theorem _root_.Mila.Spec.Overlay.slash_eq : Spec.Overlay.slash = slash := rfl

theorem plain_not_skipped {c : Bytes} (h : Spec.Loc.Plain c) : isSkipped c = false := by
  obtain ⟨hne, _, hdot, _⟩ := h
  have : c ≠ [dot] := hdot
  simp [isSkipped, this, hne]

theorem filter_plain (cs : List Bytes) (h : ∀ c ∈ cs, Spec.Loc.Plain c) :
    cs.filter (fun c => !isSkipped c) = cs := by
  apply List.filter_eq_self.mpr
  intro c hc
  simp [plain_not_skipped (h c hc)]

theorem parsePath_nil : parsePath [] = ⟨[], true⟩ := by
  simp [parsePath, splitOn', isSkipped]

/-- What `locOf` accepts: the empty string, or plain components separated by single slashes with
at most one trailing slash. -/
theorem locOf_spec {p : Bytes} {q : Spec.Overlay.Loc} (h : Spec.Overlay.locOf p = some q) :
    (∀ c ∈ q.comps, Spec.Loc.Plain c) ∧
    ((p = [] ∧ q = ⟨[], true⟩) ∨
      (q.comps ≠ [] ∧ splitOn' slash p = if q.dirOnly then q.comps ++ [[]] else q.comps)) := by
  unfold Spec.Overlay.locOf at h
  split at h
  · cases h; exact ⟨by simp, Or.inl ⟨‹_›, rfl⟩⟩
  · have hne := splitOn'_ne_nil slash p
    rw [Spec.Overlay.slash_eq] at h
    generalize splitOn' slash p = pieces at h hne
    have hplain : ∀ cs : List Bytes, (cs.all fun c => decide (Spec.Loc.Plain c)) = true →
        ∀ c ∈ cs, Spec.Loc.Plain c := fun cs hall c hc => by simpa using List.all_eq_true.mp hall c hc
    by_cases htr : pieces.length ≥ 2 ∧ pieces.getLast? = some []
    · simp only [htr, and_self, if_true] at h
      split at h
      · rename_i hall
        cases h
        obtain ⟨ys, rfl⟩ := List.getLast?_eq_some_iff.mp htr.2
        rw [List.dropLast_concat] at hall ⊢
        exact ⟨hplain ys hall, Or.inr ⟨fun (e : ys = []) => by simp [e] at htr, by simp⟩⟩
      · cases h
    · simp only [htr, if_false] at h
      split at h
      · rename_i hall
        cases h
        exact ⟨hplain pieces hall, Or.inr ⟨hne, by simp⟩⟩
      · cases h

theorem parsePath_of_locOf {p : Bytes} {q : Spec.Overlay.Loc} (h : Spec.Overlay.locOf p = some q) :
    parsePath p = ⟨q.comps, q.dirOnly⟩ := by
  obtain ⟨hpl, ⟨rfl, rfl⟩ | ⟨hne, hs⟩⟩ := locOf_spec h
  · exact parsePath_nil
  · unfold parsePath
    obtain ⟨cs, tr⟩ := q
    dsimp only at hpl hne hs
    cases tr
    · have hc := List.getLast?_eq_some_getLast hne
      simp only [hs, Bool.false_eq_true, if_false, filter_plain cs hpl, hc,
        plain_not_skipped (hpl _ (List.mem_of_getLast? hc))]
    · simp only [hs, if_true, List.filter_append, filter_plain cs hpl]
      simp [isSkipped]

theorem locOf_render (cs : List Bytes) (hne : cs ≠ []) (h : ∀ c ∈ cs, Spec.Loc.Plain c) :
    Spec.Overlay.locOf (render cs) = some ⟨cs, false⟩ := by
  have hsplit : splitOn' slash (joinWith slash cs) = cs :=
    splitOn'_joinWith slash cs hne (fun p hp => (h p hp).2.1)
  have hnn : render cs ≠ [] := by
    intro e
    have : splitOn' slash (render cs) = [[]] := by rw [e]; rfl
    rw [show render cs = joinWith slash cs from rfl, hsplit] at this
    subst this
    exact (h [] (by simp)).1 rfl
  unfold Spec.Overlay.locOf
  simp only [hnn, if_false]
  rw [Spec.Overlay.slash_eq, show render cs = joinWith slash cs from rfl, hsplit]
  have hlast : ¬ (cs.length ≥ 2 ∧ cs.getLast? = some []) := by
    rintro ⟨_, hl⟩
    exact (h [] (List.mem_of_getLast? hl)).1 rfl
  simp only [hlast, if_false]
  have : (cs.all fun c => decide (Spec.Loc.Plain c)) = true := by
    apply List.all_eq_true.mpr
    intro c hc
    simpa using h c hc
  simp [this]

end Mila.LayeredFs
