/-
Numbers as byte strings of any width: `leBytes`/`ofLe`, `beBytes`/`ofBe` and `Endian.enc`/`dec` are
inverse to each other (up to the width), and a byte string decodes below `256 ^ length`.
-/
import MilaModel.Basic

namespace Mila

theorem toNat_ofNat_lt {n : Nat} (h : n < 256) : (UInt8.ofNat n).toNat = n :=
  UInt8.toNat_ofNat_of_lt' h

theorem leBytes_length (k n : Nat) : (leBytes k n).length = k := by
  induction k generalizing n with
  | zero => rfl
  | succ k ih => simp [leBytes, ih]

@[simp] theorem beBytes_length (k n : Nat) : (beBytes k n).length = k := by
  simp [beBytes, leBytes_length]

theorem enc_length (e : Endian) (k n : Nat) : (e.enc k n).length = k := by
  cases e
  · exact leBytes_length k n
  · exact beBytes_length k n

theorem ofLe_leBytes (k n : Nat) : ofLe (leBytes k n) = n % 256 ^ k := by
  induction k generalizing n with
  | zero => simp [leBytes, ofLe, Nat.mod_one]
  | succ k ih =>
    have h : (UInt8.ofNat (n % 256)).toNat = n % 256 := by simp
    simp only [leBytes, ofLe, ih]
    rw [h, Nat.pow_succ', Nat.mod_mul]

theorem ofLe_leBytes_of_lt {k n : Nat} (h : n < 256 ^ k) : ofLe (leBytes k n) = n := by
  rw [ofLe_leBytes, Nat.mod_eq_of_lt h]

theorem ofBe_beBytes (k n : Nat) : ofBe (beBytes k n) = n % 256 ^ k := by
  simp [ofBe, beBytes, ofLe_leBytes]

theorem dec_enc (e : Endian) (k n : Nat) : e.dec (e.enc k n) = n % 256 ^ k := by
  cases e
  · exact ofLe_leBytes k n
  · exact ofBe_beBytes k n

theorem dec_enc_of_lt (e : Endian) {k n : Nat} (h : n < 256 ^ k) : e.dec (e.enc k n) = n := by
  rw [dec_enc, Nat.mod_eq_of_lt h]

theorem leBytes_ofLe (b : Bytes) : leBytes b.length (ofLe b) = b := by
  induction b with
  | nil => rfl
  | cons x xs ih =>
    have hx := x.toNat_lt
    rw [List.length_cons, leBytes, ofLe, Nat.add_mul_mod_self_left, Nat.mod_eq_of_lt hx,
      UInt8.ofNat_toNat, Nat.add_mul_div_left _ _ (by decide), Nat.div_eq_of_lt hx, Nat.zero_add, ih]

theorem leBytes_ofLe_of_length {k : Nat} {b : Bytes} (h : b.length = k) : leBytes k (ofLe b) = b :=
  h ▸ leBytes_ofLe b

theorem leBytes_mod (k n : Nat) : leBytes k (n % 256 ^ k) = leBytes k n := by
  induction k generalizing n with
  | zero => rfl
  | succ k ih =>
    simp only [leBytes]
    rw [Nat.pow_succ', Nat.mod_mul_right_div_self, Nat.mod_mul_right_mod, ih]

theorem enc_mod (e : Endian) (k n : Nat) : e.enc k (n % 256 ^ k) = e.enc k n := by
  cases e <;> simp only [Endian.enc, beBytes, leBytes_mod]

theorem ofLe_lt (b : Bytes) : ofLe b < 256 ^ b.length := by
  induction b with
  | nil => decide
  | cons x xs ih =>
    have hx := x.toNat_lt
    rw [List.length_cons, Nat.pow_succ, ofLe]
    omega

theorem ofBe_lt (b : Bytes) : ofBe b < 256 ^ b.length := by
  simpa [ofBe] using ofLe_lt b.reverse

theorem dec_lt (e : Endian) (b : Bytes) : e.dec b < 256 ^ b.length := by
  cases e
  · exact ofLe_lt b
  · exact ofBe_lt b

theorem dec_lt_pow (e : Endian) {b : Bytes} {k : Nat} (h : b.length ≤ k) : e.dec b < 256 ^ k :=
  Nat.lt_of_lt_of_le (dec_lt e b) (Nat.pow_le_pow_right (by decide) h)

end Mila
