/-
The tree invariant of a model layer (C12 / C13): every stored path's proper prefixes are stored as
directories, no path is stored twice, the root is not stored — hence nothing is stored below a
regular file.  It holds for layers read off a real directory walk, is preserved by every operation
of the model (so by every history), and is what makes the model's flat lookup `Layer.get` coincide
with the kernel's component-wise path walk.
-/
import MilaModel.Model.LayeredFs
import MilaModel.Spec.OverlayFs
import MilaModel.Lemmas.FsLayer
import MilaModel.Lemmas.FsBridge

namespace Mila.LayeredFs
open Mila.Spec.Overlay (Walk Loc topFile topFilePosix)

namespace Layer

def keys (l : Layer) : List Comps := l.map (·.1)

structure Closed (l : Layer) : Prop where
  nodup : l.keys.Nodup                                          -- no path is stored twice
  noRoot : ∀ e ∈ l, e.1 ≠ []                                     -- the root is implicit
  parents : ∀ e ∈ l, ∀ x, IsAncestor x e.1 → l.get x = some .dir  -- ancestors are stored directories

theorem closed_nil : Closed ([] : Layer) :=
  ⟨by simp [keys], by simp, by simp⟩

theorem mem_of_get {l : Layer} {c : Comps} {n : Node} (hc : c ≠ []) (h : l.get c = some n) : (c, n) ∈ l := by
  induction l with
  | nil => simp [get, hc] at h
  | cons e rest ih =>
    rw [get_cons e rest c hc] at h
    split at h
    · rename_i he
      cases h
      exact he ▸ List.mem_cons_self
    · exact List.mem_cons_of_mem _ (ih h)

theorem get_isSome_of_mem {l : Layer} {e : Comps × Node} (he : e ∈ l) (hne : e.1 ≠ []) : (l.get e.1).isSome := by
  unfold get
  simp only [hne, if_false]
  cases hf : l.find? (fun x => decide (x.1 = e.1)) with
  | none => have := List.find?_eq_none.mp hf e he; simp at this
  | some x => simp

theorem get_of_mem {l : Layer} (hn : l.keys.Nodup) {e : Comps × Node} (he : e ∈ l) (hne : e.1 ≠ []) :
    l.get e.1 = some e.2 := by
  induction l with
  | nil => cases he
  | cons a rest ih =>
    rw [get_cons a rest e.1 hne]
    have hn' : (a.1 :: keys rest).Nodup := hn
    rcases List.mem_cons.mp he with rfl | h
    · simp
    · have hne' : a.1 ≠ e.1 := by
        intro heq
        have : e.1 ∈ keys rest := List.mem_map.mpr ⟨e, h, rfl⟩
        exact (List.nodup_cons.mp hn').1 (heq ▸ this)
      simp only [hne', if_false]
      exact ih (List.nodup_cons.mp hn').2 h

/-- On a closed layer nothing is stored below a regular file. -/
theorem Closed.no_child_of_file {l : Layer} (hc : Closed l) {x : Comps} {b : Bytes}
    (hx : l.get x = some (.file b)) : ∀ e ∈ l, ¬ IsAncestor x e.1 := by
  intro e he ha
  have := hc.parents e he x ha
  rw [hx] at this; cases this

theorem keys_set (l : Layer) (c : Comps) (n : Node) :
    (l.set c n).keys = if c ∈ l.keys then l.keys else l.keys ++ [c] := by
  have keys_cons : ∀ (e : Comps × Node) (r : Layer), keys (e :: r) = e.1 :: keys r := fun _ _ => rfl
  induction l with
  | nil => rfl
  | cons e rest ih =>
    unfold set
    split
    · rename_i h
      rw [keys_cons, keys_cons, if_pos (h ▸ List.mem_cons_self), h]
    · rename_i h
      have hne : ¬ c = e.1 := fun x => h x.symm
      rw [keys_cons, keys_cons, ih]
      simp only [List.mem_cons, hne, false_or]
      split <;> rfl

theorem nodup_set (l : Layer) (c : Comps) (n : Node) (h : l.keys.Nodup) : (l.set c n).keys.Nodup := by
  rw [keys_set]
  split
  · exact h
  · rename_i hc
    exact List.nodup_append.mpr ⟨h, by simp, fun a ha b hb e => hc (by simp at hb; rw [← hb, ← e]; exact ha)⟩

/-- Storing a node at `c` keeps the invariant when `c`'s ancestors are directories and either the
node is a directory or `c` is not currently a directory (so nothing lives below it). -/
theorem closed_set {l : Layer} (hc : Closed l) (c : Comps) (n : Node) (hne : c ≠ [])
    (hanc : ∀ x, IsAncestor x c → l.get x = some .dir)
    (hn : n = .dir ∨ l.get c ≠ some .dir) : Closed (l.set c n) := by
  refine ⟨nodup_set l c n hc.nodup, ?_, ?_⟩
  · intro e he
    rcases mem_set l c n e he with h | h
    · exact hc.noRoot e h
    · rw [h]; exact hne
  · intro e he x hx
    rw [get_set l c x n hne]
    rcases mem_set l c n e he with h | rfl
    · -- an old entry lies below `x`: if `x = c`, `c` was a directory, so the new node must be one
      have hd := hc.parents e h x hx
      split
      · rename_i hxc
        rcases hn with rfl | hn
        · rfl
        · exact absurd (hxc ▸ hd) hn
      · exact hd
    · rw [if_neg fun hxc => Nat.lt_irrefl _ (hxc ▸ hx.2.2)]
      exact hanc x hx

theorem nodup_mkdirAll {l : Layer} (h : l.keys.Nodup) (c : Comps) : (l.mkdirAll c).1.keys.Nodup := by
  unfold mkdirAll
  split
  · exact h
  · refine List.foldlRecOn (motive := fun r => r.keys.Nodup) _ mkStep h fun r hr q _ => ?_
    unfold mkStep
    split
    · exact nodup_set r q .dir hr
    · exact hr

/-- `create_dir_all` keeps the invariant: what it adds are prefixes of `c`; their ancestors are
again prefixes of `c`, and all of those are directories afterwards. -/
theorem closed_mkdirAll {l : Layer} (hc : Closed l) (c : Comps) :
    Closed (l.mkdirAll c).1 ∧
    ((l.mkdirAll c).2 = .ok () → ∀ q ∈ prefixes c, (l.mkdirAll c).1.get q = some .dir) := by
  rcases mkdirAll_cases l c with ⟨he, _⟩ | ⟨_, hnf, hget⟩
  · rw [he]; exact ⟨hc, nofun⟩
  · have hdir : ∀ q ∈ prefixes c, (l.mkdirAll c).1.get q = some .dir := by
      intro q hq
      have := hnf q hq
      rw [hget]
      cases hg : l.get q with
      | none => simp [hq]
      | some n =>
        cases n with
        | dir => simp
        | file b => rw [hg] at this; cases this
    refine ⟨⟨nodup_mkdirAll hc.nodup c, fun e he => ?_, fun e he x hx => ?_⟩, fun _ => hdir⟩
    · exact (mem_mkdirAll l c e he).elim (hc.noRoot e) prefixes_ne_nil
    · rcases mem_mkdirAll l c e he with h | h
      · rw [hget, hc.parents e h x hx]; simp
      · exact hdir x (mem_prefixes.mpr ⟨hx.1, hx.2.1.trans (mem_prefixes.mp h).2⟩)

/-- Also a rejected write, which may have created leading directories, keeps the invariant. -/
theorem closed_write {l : Layer} (hc : Closed l) (p b : Bytes) : Closed (l.write p b).1 := by
  obtain ⟨hm, hdirs⟩ := closed_mkdirAll hc (parsePath p).comps.dropLast
  generalize hmm : l.mkdirAll (parsePath p).comps.dropLast = m at hm hdirs
  rw [write_eq l p b rfl hmm]
  split
  · rename_i h
    exact closed_set hm _ _ h.2.1 (fun x hx => hdirs h.1 x (mem_prefixes_dropLast.mpr hx)) (Or.inr h.2.2.2)
  · exact hm

theorem closed_createDir {l : Layer} (hc : Closed l) (p : Bytes) : Closed (l.createDir p).1 :=
  (closed_mkdirAll hc (parsePath p).comps).1

theorem keys_walkOf (l : Layer) : (walkOf l).map (·.1) = l.keys := by
  simp [walkOf, keys, List.map_map]

theorem closed_of_isTree (l : Layer) (h : (walkOf l).IsTree) : Closed l := by
  obtain ⟨hnd, hroot, hpar⟩ := h
  have hroot' : ∀ e ∈ l, e.1 ≠ [] := fun e he => hroot (e.1, kindOf e.2) (List.mem_map.mpr ⟨e, he, rfl⟩)
  have hpar' : ∀ e ∈ l, l.get e.1.dropLast = some .dir := fun e he =>
    (at_dir_iff l _).mp (hpar (e.1, kindOf e.2) (List.mem_map.mpr ⟨e, he, rfl⟩))
  refine ⟨keys_walkOf l ▸ hnd, hroot', ?_⟩
  -- induction on the depth of the entry: the parent is a stored directory, and the ancestor is the
  -- parent or an ancestor of the parent
  have key : ∀ n, ∀ e ∈ l, e.1.length = n → ∀ x, IsAncestor x e.1 → l.get x = some .dir := by
    intro n
    induction n with
    | zero => exact fun e _ hlen x hx => absurd hx.2.2 (by omega)
    | succ n ih =>
      intro e he hlen x hx
      have hxp : x <+: e.1.dropLast := (mem_prefixes.mp (mem_prefixes_dropLast.mpr hx)).2
      by_cases hd : x.length = e.1.dropLast.length
      · rw [hxp.eq_of_length hd]
        exact hpar' e he
      · have hpne : e.1.dropLast ≠ [] := fun h => hx.1 (List.prefix_nil.mp (h ▸ hxp))
        exact ih (e.1.dropLast, .dir) (mem_of_get hpne (hpar' e he)) (by simp [hlen]) x
          ⟨hx.1, hxp, Nat.lt_of_le_of_ne hxp.length_le hd⟩
  exact fun e he => key _ e he rfl

/-- The precondition is decidable: an executable check for initial trees. -/
def isTreeB (l : Layer) : Bool :=
  decide (l.keys.Nodup) && l.all (fun e => !e.1.isEmpty) &&
  l.all (fun e => decide (l.get e.1.dropLast = some .dir))

theorem closed_of_isTreeB (l : Layer) (h : isTreeB l = true) : Closed l := by
  apply closed_of_isTree
  simp only [isTreeB, Bool.and_eq_true, decide_eq_true_eq, List.all_eq_true, Bool.not_eq_true',
    List.isEmpty_eq_false_iff] at h
  obtain ⟨⟨h1, h2⟩, h3⟩ := h
  refine ⟨keys_walkOf l ▸ h1, ?_, ?_⟩
  · intro e he
    obtain ⟨e0, he0, rfl⟩ := List.mem_map.mp he
    exact h2 e0 he0
  · intro e he
    obtain ⟨e0, he0, rfl⟩ := List.mem_map.mp he
    exact (at_dir_iff l _).mpr (h3 e0 he0)

/-- Component-wise lookup: every ancestor must be a directory. -/
def posixGet (l : Layer) (c : Comps) : Option Node :=
  if (prefixes c.dropLast).all (fun x => decide (l.get x = some .dir)) then l.get c else none

theorem posixGet_eq_get {l : Layer} (hc : Closed l) (c : Comps) : l.posixGet c = l.get c := by
  unfold posixGet
  split
  · rfl
  · rename_i hall
    cases hg : l.get c with
    | none => rfl
    | some n =>
      exfalso
      apply hall
      by_cases hne : c = []
      · subst hne; simp [prefixes]
      · have hm := mem_of_get hne hg
        apply List.all_eq_true.mpr
        intro x hx
        simpa using hc.parents (c, n) hm x (mem_prefixes_dropLast.mp hx)

end Layer

theorem ancestors_eq (c : Comps) : Spec.Overlay.ancestors c = Spec.Overlay.properPrefixes c := rfl

theorem posixAt_walkOf {l : Layer} (hc : l.Closed) (c : Comps) : (walkOf l).posixAt c = (walkOf l).at c := by
  unfold Spec.Overlay.Walk.posixAt
  simp only [ancestors_eq, properPrefixes_eq_prefixes, at_dir_iff]
  split
  · rfl
  · rename_i hall
    rw [at_walkOf, ← Layer.posixGet_eq_get hc c, Layer.posixGet, if_neg hall]; rfl

theorem posixFileAt_walkOf {l : Layer} (hc : l.Closed) (q : Loc) :
    (walkOf l).posixFileAt q = (walkOf l).fileAt q := by
  unfold Walk.posixFileAt Walk.fileAt
  rw [posixAt_walkOf hc]

theorem findSome?_congr {α β : Type} {f g : α → Option β} {l : List α} (h : ∀ x ∈ l, f x = g x) :
    l.findSome? f = l.findSome? g := by
  induction l with
  | nil => rfl
  | cons x xs ih =>
    rw [List.findSome?_cons, List.findSome?_cons, h x List.mem_cons_self,
      ih fun y hy => h y (List.mem_cons_of_mem _ hy)]

theorem topFilePosix_walksOf (fs : Fs) (hwf : ∀ l ∈ fs.layers, l.Closed) (q : Loc) :
    topFilePosix (walksOf fs) q = topFile (walksOf fs) q := by
  refine findSome?_congr fun w hw => ?_
  obtain ⟨l, hl, rfl⟩ := List.mem_map.mp (List.mem_reverse.mp hw)
  exact posixFileAt_walkOf (hwf l hl) q

end Mila.LayeredFs
