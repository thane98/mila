/-
`LZ13CompressionFormat::compress` establishes `Post` and never panics (C09): `calculate_lz13_header`
always returns, the loop keeps `Inv`, and the bytes pushed for each of the three length forms are
the token bytes of the specification.
-/
import MilaModel.Lemmas.LzCompress

namespace Mila.Lz
open Mila.Spec.Lz

theorem hdrRun_some (b : BA) (x y : Nat) (hxy : x ≤ y) : ∃ r, hdrRun b x y = some r := by
  fun_induction hdrRun b x y with
  | case1 => omega
  | case2 _ _ _ _ ih => exact ih (by omega)
  | case3 y => exact ⟨y, rfl⟩
  | case4 y => exact ⟨y, rfl⟩

theorem hdrCand_some (b : BA) (sp x length : Nat) (hx : x ≤ sp) (hl : length = 1 ∨ 3 ≤ length) :
    ∃ l, hdrCand b sp x length = some l ∧ (l = 1 ∨ 3 ≤ l) := by
  fun_induction hdrCand b sp x length with
  | case1 x length _ hr =>
    obtain ⟨r, h⟩ := hdrRun_some b x sp hx
    rw [h] at hr
    cases hr
  | case2 x length _ y _ _ _ ih => exact ih (by omega) (by simp +zetaDelta only; split <;> omega)
  | case3 x length => exact ⟨length, rfl, hl⟩

theorem hdrLoop_ok (b : BA) (sp : Nat) (maxLead bufLen : Int) (fc : Nat) :
    ∃ l, hdrLoop b sp maxLead bufLen fc = .ok l := by
  fun_induction hdrLoop b sp maxLead bufLen fc with
  | case1 sp _ _ _ _ hn =>
    obtain ⟨l, hl, _⟩ := hdrCand_some b sp (min sp 4096) 1 (by omega) (Or.inl rfl)
    rw [hl] at hn
    cases hn
  | case4 sp _ _ _ _ cur hc h1 h2 =>
    obtain ⟨l, hl, hl13⟩ := hdrCand_some b sp (min sp 4096) 1 (by omega) (Or.inl rfl)
    rw [hl] at hc
    cases hc
    omega
  | case7 => exact ⟨_, rfl⟩
  | _ => assumption

theorem lz13Header_ok (b : BA) : ∃ l, lz13Header b = .ok l := hdrLoop_ok b 0 0 9 0

theorem lenOk11 (len : Nat) (h3 : 3 ≤ len) (h : len ≤ 0x1000) : lenOk true len :=
  ⟨h3, Nat.le_trans h (by decide)⟩

/-- lz13.rs:229-233, lengths 3..16. -/
theorem emit13a (len disp : Nat) (h3 : 3 ≤ len) (h16 : len ≤ 16) (hd1 : 1 ≤ disp) (hd2 : disp ≤ 4096) :
    [andF0 (((len : Int) - 1) * 16) ||| and0F (((disp - 1 : Nat) : Int) / 256),
      andFF ((disp - 1 : Nat) : Int)] = tokBytes true (.ref len disp) := by
  rw [emit_tail _ (len - 1) disp (by omega) (by omega) hd1 hd2]
  simp [tokBytes, h16]

/-- lz13.rs:225-227, 231-233, lengths 17..272 (the `i32` value `length - 0x111` is negative). -/
theorem emit13b (len disp : Nat) (h17 : 16 < len) (h272 : len ≤ 272) (hd1 : 1 ≤ disp) (hd2 : disp ≤ 4096) :
    and0F (((len : Int) - 0x111) / 16) ::
      [andF0 (((len : Int) - 0x111) * 16) ||| and0F (((disp - 1 : Nat) : Int) / 256),
        andFF ((disp - 1 : Nat) : Int)] = tokBytes true (.ref len disp) := by
  obtain ⟨v, rfl⟩ : ∃ v, len = v + 17 := ⟨len - 17, by omega⟩
  rw [show ((v + 17 : Nat) : Int) - 0x111 = (v : Int) - 256 by omega,
    emit_tail _ (v % 16) disp (by omega) (by omega) hd1 hd2, and0F_eq _ (v / 16) (by omega)]
  simp [tokBytes, Nat.not_le.2 h17, h272]

/-- lz13.rs:221-224, 231-233, lengths 273..4096. -/
theorem emit13c (len disp : Nat) (h273 : 272 < len) (h4096 : len ≤ 4096) (hd1 : 1 ≤ disp) (hd2 : disp ≤ 4096) :
    (0x10 ||| and0F (((len : Int) - 0x111) / 4096)) :: andFF (((len : Int) - 0x111) / 16) ::
      [andF0 (((len : Int) - 0x111) * 16) ||| and0F (((disp - 1 : Nat) : Int) / 256),
        andFF ((disp - 1 : Nat) : Int)] = tokBytes true (.ref len disp) := by
  obtain ⟨v, rfl⟩ : ∃ v, len = v + 273 := ⟨len - 273, by omega⟩
  rw [show ((v + 273 : Nat) : Int) - 0x111 = (v : Int) by omega,
    emit_tail _ (v % 16) disp (by omega) (by omega) hd1 hd2,
    and0F_eq _ (v / 4096) (by omega), andFF_eq _ (v / 16 % 256) (by omega),
    show (0x10 : UInt8) = UInt8.ofNat (16 * 1) from rfl, or16 _ _ (by decide) (by omega)]
  have h1 : ¬ v + 273 ≤ 16 := by omega
  have h2 : ¬ v + 273 ≤ 272 := by omega
  simp [tokBytes, h1, h2]

theorem compress13Loop_post (x : BA) (hdr : Bytes) :
    ∀ (m : Nat) (result outBuf : BA) (blocks read : Nat), x.size - read = m →
      Inv true 0x1000 hdr x result outBuf blocks read →
      Post true 0x1000 hdr x (compress13Loop x result outBuf blocks read) := by
  intro m
  induction m using Nat.strongRecOn with
  | _ m ih =>
    intro result outBuf blocks read hm hinv
    rw [compress13Loop]
    by_cases hr : read < x.size
    · obtain ⟨b', o', k', len, disp, eb, eo, ek, hinv', hk', hs⟩ := loop_head hinv hr
      simp only [hr, ↓reduceDIte, eb, eo, ek, show occurrence x read _ _ _ = .ok (len, disp) from hs]
      have hosz := (inv_outBuf_size hinv' 4 (tokBytes_length_le true)).1
      by_cases hl : len < 3
      · rw [if_pos hl]
        exact ih (x.size - (read + 1)) (by omega) _ _ _ _ rfl (inv_lit hinv' hk' hr hs hl)
      · obtain ⟨hd1, _, hd2, hcap, hend, _⟩ := search_spec hr hs (by omega)
        rw [if_neg hl, if_neg (by omega)]
        have := inv_ref hinv' hk' hr hs (by omega)
        refine ih (x.size - (read + len)) (by omega) _ _ _ _ rfl ?_
        by_cases hc1 : len > 0x110
        · rw [if_pos (by omega), modifyLast]
          rwa [← emit13c len disp hc1 hcap hd1 hd2] at this
        · by_cases hc2 : len > 0x10
          · rw [if_neg (by omega), if_pos (by omega), modifyLast]
            rwa [← emit13b len disp hc2 (by omega) hd1 hd2] at this
          · rw [if_neg (by omega), if_neg (by omega), modifyLast]
            rwa [← emit13a len disp (by omega) (by omega) hd1 hd2] at this
    · simp only [hr, ↓reduceDIte]
      exact inv_final hinv hr

/-- The header is the 4-byte `0x13` wrapper and the LZ11 header: 8 bytes, 12 for the empty input,
whose length needs the extended word. -/
theorem compress13_post (x : BA) :
    ∃ (l0 l1 l2 : UInt8) (hdr : Bytes), hdr.length = (if x.size = 0 then 12 else 8) ∧
      (x.size < 2 ^ 24 → hdr = 0x13 :: l0 :: l1 :: l2 :: header true x.size) ∧
      Post true 0x1000 hdr x (compress13 x).1 := by
  obtain ⟨l, hl⟩ := lz13Header_ok x
  unfold compress13
  simp only [hl]
  refine ⟨UInt8.ofNat (l % 256), UInt8.ofNat (l / 256 % 256), UInt8.ofNat (l / 65536 % 256), _, ?_, ?_,
    compress13Loop_post x _ _ _ _ _ _ rfl (inv_init true 0x1000 _ x _ rfl)⟩
  · split <;> simp
  · intro hx
    by_cases h0 : x.size = 0
    · simp [h0, header, leBytes]
    · have h24 : ¬ (16777216 ≤ x.size) := by omega
      simp [h0, header, leBytes, h24]
      congr 1
      omega

end Mila.Lz
