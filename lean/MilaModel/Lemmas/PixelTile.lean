/-
C19: the tile walk of `decode_rgba_pixel_data` puts the texel with Z-order offset
`tileOffset w x y` at pixel `(x, y)` — for every width and height that are multiples of 8
(in particular every power of two from 8 up).  Step `p` of tile `(ty, tx)` fills the pixel whose
Z-order position is `(ty, tx, p)`; the three loops then fill every pixel (`forRange_fills`).
-/
import MilaModel.Lemmas.PixelLoops
import MilaModel.Spec.Morton

namespace Mila.Pixel
open Spec.Morton

/-- Bytes per texel of the formats whose texels have a fixed whole number of bytes and are read
without seeking back (all formats of the property; not RGB8 = 1, L4 = 10, A4 = 11). -/
def texelBytes : Nat → Nat
  | 0 => 4
  | 2 | 3 | 4 | 5 => 2
  | 6 | 7 | 8 | 9 => 1
  | _ => 0

def FixedFmt (fmt : Nat) : Prop := fmt = 0 ∨ fmt = 2 ∨ fmt = 3 ∨ fmt = 4 ∨ fmt = 5 ∨ fmt = 6 ∨ fmt = 7 ∨ fmt = 8 ∨ fmt = 9

theorem readLE_ok {d : Buf} {pos n : Nat} (h : pos + n ≤ d.size) : d.readLE pos n = .ok (d.leN pos n) :=
  if_pos h

theorem readTexel_fixed {data : Buf} {pos fmt : Nat} (hf : FixedFmt fmt)
    (hp : pos + texelBytes fmt ≤ data.size) :
    readTexel data pos fmt = .ok (data.leN pos (texelBytes fmt), pos + texelBytes fmt) := by
  -- every such format reads `texelBytes fmt` bytes with `readLE` and advances by as many
  rcases hf with rfl | rfl | rfl | rfl | rfl | rfl | rfl | rfl | rfl <;>
    exact congrArg (· >>= _) (readLE_ok hp)

/-- `TILE_ORDER[p]` is the row-major position of the texel with Z-order index `p`. -/
theorem tile_order_morton : ∀ p, p < 64 → TILE_ORDER.getD p 0 = mortonY p * 8 + mortonX p := by
  decide

theorem morton_inv : ∀ p, p < 64 →
    mortonX p < 8 ∧ mortonY p < 8 ∧ interleave (mortonX p) (mortonY p) = p := by
  decide

/-- The column and row that `rgbaStep` computes from `TILE_ORDER[p]`. -/
theorem tile_entry {p : Nat} (hp : p < 64) :
    TILE_ORDER.getD p 0 % 8 = mortonX p ∧
    (TILE_ORDER.getD p 0 - TILE_ORDER.getD p 0 % 8) / 8 = mortonY p := by
  rw [tile_order_morton p hp, Nat.mul_comm, Nat.mul_add_mod, Nat.mod_eq_of_lt (morton_inv p hp).1,
    Nat.add_sub_cancel, Nat.mul_div_cancel_left _ (by decide)]
  exact ⟨rfl, rfl⟩

theorem interleave_inv : ∀ a, a < 8 → ∀ b, b < 8 →
    interleave a b < 64 ∧ mortonX (interleave a b) = a ∧ mortonY (interleave a b) = b := by
  decide

theorem interleave_inj {a b a' b' : Nat} (ha : a < 8) (hb : b < 8) (ha' : a' < 8) (hb' : b' < 8)
    (h : interleave a b = interleave a' b') : a = a' ∧ b = b' := by
  obtain ⟨_, hx, hy⟩ := interleave_inv a ha b hb
  obtain ⟨_, hx', hy'⟩ := interleave_inv a' ha' b' hb'
  rw [h] at hx hy
  exact ⟨hx.symm.trans hx', hy.symm.trans hy'⟩

theorem tile_coords {n a r : Nat} (hr : r < 8) : n = a * 8 + r ↔ n / 8 = a ∧ n % 8 = r := by
  omega

/-- The byte the decoder must leave at channel `c` of pixel `(X, Y)`. -/
def expByte (data : Buf) (w fmt X Y c : Nat) : UInt8 :=
  chanByte (decodeColor (data.leN (tileOffset w X Y * texelBytes fmt) (texelBytes fmt)) fmt) c

theorem rgbaStep_fills {data : Buf} {w h fmt ty tx p : Nat} (hf : FixedFmt fmt)
    (hw : w % 8 = 0) (hh : h % 8 = 0) (hd : data.size = (h / 8 * (w / 8) * 64) * texelBytes fmt)
    (hty : ty < h / 8) (htx : tx < w / 8) (hp : p < 64) (s : Nat × Buf)
    (hs : At w h (texelBytes fmt) ((ty * (w / 8) + tx) * 64 + p) s) :
    ∃ s', rgbaStep data w fmt ty tx p s = .ok s' ∧
      At w h (texelBytes fmt) ((ty * (w / 8) + tx) * 64 + (p + 1)) s' ∧
      Fills (fun s => pxByte w s.2) (fun i => expByte data w fmt i.1 i.2.1 i.2.2) (InRow w)
        (fun i => i.2.1 / 8 = ty ∧ i.1 / 8 = tx ∧ interleave (i.1 % 8) (i.2.1 % 8) = p) s s' := by
  obtain ⟨hxdef, hydef⟩ := tile_entry hp
  obtain ⟨hx8, hy8, hint⟩ := morton_inv p hp
  rw [hxdef] at hydef
  generalize mortonX p = x at hxdef hydef hx8 hint
  generalize mortonY p = y at hydef hy8 hint
  -- the flat texel counter stays inside the payload
  have hread : s.1 + texelBytes fmt ≤ data.size := hd ▸ hs.room (idx_lt hp (idx_lt htx hty))
  have hX : tx * 8 + x < w := by omega
  have hY : ty * 8 + y < h := by omega
  have hidx := idx_lt hX hY
  have hwrite : ((ty * 8 + y) * w + (tx * 8 + x)) * 4 + 4 ≤ s.2.size := by rw [hs.2]; omega
  refine ⟨(s.1 + texelBytes fmt, set4 s.2 (((ty * 8 + y) * w + (tx * 8 + x)) * 4)
    (decodeColor (data.leN s.1 (texelBytes fmt)) fmt)), ?_, hs.next (set4_size _ _ _), ?_⟩
  · simp only [rgbaStep, hxdef, hydef, readTexel_fixed hf hread, write4, set4, Nat.add_comm (tx * 8 + x),
      if_pos hwrite]
  · refine set4_fills _ _ w _ _ _ s.2 hX hwrite (fun i => ?_) (fun i hA => ?_)
    -- the pixel written is the one whose Z-order position is `(ty, tx, p)`
    · rw [tile_coords hx8, tile_coords hy8]
      constructor
      · rintro ⟨h1, h2, h3⟩
        obtain ⟨e1, e2⟩ := interleave_inj (Nat.mod_lt _ (by decide)) (Nat.mod_lt _ (by decide)) hx8 hy8
          (h3.trans hint.symm)
        exact ⟨⟨h2, e1⟩, h1, e2⟩
      · rintro ⟨⟨h1, h2⟩, h3, h4⟩
        exact ⟨h3, h1, by rw [h2, h4]; exact hint⟩
    · rw [expByte, tileOffset, hA.1, hA.2.1, hA.2.2, hs.1]

theorem allocBmp_ok (p : Profile) (w h : Nat) (hw : w < 2 ^ 16) (hh : h < 2 ^ 16) :
    allocBmp p w h = .ok (Buf.zeros (4 * (w * h))) := by
  have h1 : w * h < 2 ^ 32 := by
    have := Nat.mul_lt_mul'' hw hh
    simpa [← Nat.pow_add] using this
  have h2 : w * h < 2 ^ 64 := by omega
  have h3 : 4 * (w * h) < 2 ^ 64 := by omega
  have h4 : 4 * (w * h) < allocLimit := by unfold allocLimit; omega
  simp [allocBmp, mulN_ok p h2, mulN_ok p h3, h4]

theorem decodeRgba_ok (p : Profile) (data : Buf) (w h fmt : Nat) (hf : FixedFmt fmt)
    (hw : w % 8 = 0) (hh : h % 8 = 0) (hwb : w < 2 ^ 16) (hhb : h < 2 ^ 16)
    (hd : data.size = texelBytes fmt * (w * h)) :
    ∃ bmp, decodeRgba p data w h fmt = .ok bmp ∧ bmp.size = 4 * (h * w) ∧
      ∀ X Y c, X < w → Y < h → c < 4 → bmp.getD ((Y * w + X) * 4 + c) 0 = expByte data w fmt X Y c := by
  have hd' : data.size = (h / 8 * (w / 8) * 64) * texelBytes fmt := by
    rw [hd, Nat.mul_comm (texelBytes fmt), Nat.mul_comm w h, area_split hh hw]
  have loop := @forRange_fills _ _ _ (fun s : Nat × Buf => pxByte w s.2)
    (fun i => expByte data w fmt i.1 i.2.1 i.2.2) (InRow w)
  obtain ⟨s', hs', hP, hF⟩ := loop _ (fun ty s => At w h (texelBytes fmt) (ty * (w / 8) * 64) s) _ (h / 8)
    (fun ty s hty hP => by
      obtain ⟨s', hs', hP', hF⟩ := loop _
        (fun tx s => At w h (texelBytes fmt) ((ty * (w / 8) + tx) * 64) s) _ (w / 8)
        (fun tx s htx hP => by
          obtain ⟨s', hs', hP', hF⟩ := loop _
            (fun p s => At w h (texelBytes fmt) ((ty * (w / 8) + tx) * 64 + p) s) _ 64
            (fun p s hp hP => rgbaStep_fills hf hw hh hd' hty htx hp s hP) s hP
          have e : (ty * (w / 8) + tx) * 64 + 64 = (ty * (w / 8) + (tx + 1)) * 64 := by omega
          exact ⟨s', hs', e ▸ hP', hF⟩) s hP
      have e : (ty * (w / 8) + w / 8) * 64 = (ty + 1) * (w / 8) * 64 := by rw [Nat.succ_mul]
      exact ⟨s', hs', e ▸ hP', hF⟩) (0, Buf.zeros (4 * (w * h))) ⟨by simp, by simp [Buf.zeros, Nat.mul_comm w h]⟩
  refine ⟨s'.2, ?_, hP.2, fun X Y c hX hY hc => ?_⟩
  · simp only [decodeRgba, allocBmp_ok p w h hwb hhb, Res.bind_ok, hs', Res.pure_eq]
  · exact (hF (X, Y, c) ⟨hX, hc⟩).1 ⟨Y / 8, by omega, X / 8, by omega, _,
      (interleave_inv _ (Nat.mod_lt _ (by decide)) _ (Nat.mod_lt _ (by decide))).1, rfl, rfl, rfl⟩

end Mila.Pixel
