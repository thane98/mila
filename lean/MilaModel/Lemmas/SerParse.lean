/-
C01: `parse` recovers the content of every conforming image (`parse_conforming`).
Invariants over the two table loops of `from_bytes` are stated as lookup functions of the maps
built so far (so neither table order nor hash order matters).
-/
import MilaModel.Lemmas.SerConf
import MilaModel.Lemmas.Validate

namespace Mila.Ser
open Mila.BinArchive
open Spec.Image

theorem range_foldlM {α β : Type} (F : α → Nat → Res α) (H : α → β → Res α) :
    ∀ (l : List β) (s : Nat) (a : α),
      (∀ j (h : j < l.length) (a : α), F a (s + j) = H a l[j]) →
      (List.range' s l.length).foldlM F a = l.foldlM H a := by
  intro l
  induction l with
  | nil => intro s a _; rfl
  | cons x xs ih =>
    intro s a h
    rw [List.length_cons, List.range'_succ, List.foldlM_cons, List.foldlM_cons]
    have h0 := h 0 (by simp) a
    simp only [Nat.add_zero, List.getElem_cons_zero] at h0
    rw [h0]
    congr 1
    funext a'
    apply ih
    intro j hj a''
    have := h (j + 1) (Nat.succ_lt_succ hj) a''
    simp only [List.getElem_cons_succ] at this
    rw [← this]
    congr 1
    omega

theorem u32At_eq_wordAt (e : Endian) (f : Bytes) (pos : Nat) : u32At e f pos = wordAt e f pos := rfl

theorem dec_slice_of_wordAt {e : Endian} {f : Bytes} {pos v : Nat} (h : wordAt e f pos = some v) :
    e.dec (slice f pos 4) = v :=
  (wordAt_eq_some.mp h).2

theorem wordAt_slice (e : Endian) (f : Bytes) (start len x : Nat) (h : start + len ≤ f.length)
    (hx : x + 4 ≤ len) : wordAt e (slice f start len) x = wordAt e f (start + x) := by
  apply wordAt_congr e (by rw [length_slice f start len h]; exact hx) (by omega)
  intro j hj
  rw [getElem?_slice, if_pos (Nat.lt_of_lt_of_le (Nat.add_lt_add_left hj x) hx), Nat.add_assoc]

theorem validateCell_ok (a : BinArchive) (x : Nat) (h : x + 4 ≤ a.data.length) :
    validateCell a x 4 = .ok () :=
  BinArchive.validateCell_ok (by decide) h

section steps
variable {c : Codec} {D : Str → Prop} {e : Endian} {f : Bytes} {K : Content}

theorem Ctx.data_fits (ctx : Ctx c D e f K) : 0x20 + K.data.length ≤ f.length := by
  have := ctx.conf.fits
  unfold Content.textStart at this
  omega

/-- The archive under construction: the data block of the image, never modified. -/
def Base (e : Endian) (f : Bytes) (K : Content) (a : BinArchive) : Prop :=
  a.data = slice f 0x20 K.data.length ∧ a.endian = e

theorem Base.length (ctx : Ctx c D e f K) {a : BinArchive} (hb : Base e f K a) :
    a.data.length = K.data.length := by
  rw [hb.1, length_slice _ _ _ ctx.data_fits]

theorem readU32_image (ctx : Ctx c D e f K) {a : BinArchive} (hb : Base e f K a) {x v : Nat}
    (hx : x + 4 ≤ K.data.length) (hw : wordAt e f (0x20 + x) = some v) : readU32 a x = .ok v := by
  unfold readU32 readUInt
  rw [validateCell_ok a x (by rw [hb.length ctx]; exact hx)]
  simp only []
  have := wordAt_slice e f 0x20 K.data.length x ctx.data_fits hx
  rw [hw, ← hb.1] at this
  rw [hb.2, dec_slice_of_wordAt this]

/-- The string that sits at a position is what `read_shift_jis_string` returns there. -/
theorem sjisAt_of_strAt (ctx : Ctx c D e f K) {s b : Str} {pos : Nat} (hD : D s)
    (hb : c.enc s = some b) (hs : StrAt f pos b) : sjisAt c f pos = .ok s := by
  obtain ⟨b', hb', h0, hdec⟩ := ctx.faithful s hD
  rw [hb] at hb'
  cases hb'
  unfold sjisAt
  rw [cstrBytes_of_strAt b (f.drop pos) h0 hs]
  simp only [hdec]

theorem parsePointerAt_pointer (ctx : Ctx c D e f K) {a : BinArchive} (hb : Base e f K a)
    {p : Nat × Nat} (hp : p ∈ K.pointers) :
    parsePointerAt c f K.data.length a p.1 =
      .ok { a with pointers := UMap.insert a.pointers p.1 p.2 } := by
  have hin : p.1 + 4 ≤ K.data.length :=
    ctx.wf.inside _ (List.mem_append_left _ (List.mem_map_of_mem hp))
  unfold parsePointerAt
  rw [readU32_image ctx hb hin (ctx.conf.ptrCells p hp)]
  simp only []
  rw [if_neg (by have := ctx.wf.targets p hp; omega)]
  unfold writePointer
  simp only []
  rw [validateCell_ok a p.1 (by rw [hb.length ctx]; exact hin)]

theorem parsePointerAt_string (ctx : Ctx c D e f K) {a : BinArchive} (hb : Base e f K a)
    {p : Nat × Str} (hp : p ∈ K.strings) :
    parsePointerAt c f K.data.length a p.1 =
      .ok { a with text := UMap.insert a.text p.1 p.2 } := by
  have hmem : p.1 ∈ K.cells := List.mem_append_right _ (List.mem_map_of_mem hp)
  have hin : p.1 + 4 ≤ K.data.length := ctx.wf.inside _ hmem
  obtain ⟨v, b, hw, hts, henc, hstr⟩ := ctx.conf.strCells p hp
  have hpos : 0 < K.cells.length := List.length_pos_of_mem hmem
  unfold parsePointerAt
  rw [readU32_image ctx hb hin hw]
  simp only []
  rw [if_pos (by unfold Content.textStart at hts; omega)]
  rw [Nat.add_comm v 0x20, sjisAt_of_strAt ctx (ctx.domS p hp) henc hstr]
  simp only []
  unfold writeString
  simp only []
  rw [validateCell_ok a p.1 (by rw [hb.length ctx]; exact hin)]

theorem parseLabelAt_entry (ctx : Ctx c D e f K) {a : BinArchive} (hb : Base e f K a)
    {addr off : Nat} {name b : Str} (hD : D name) (haddr : addr ≤ K.data.length)
    (henc : c.enc name = some b) (hstr : StrAt f (0x20 + K.textStart + off) b) :
    parseLabelAt c f K.textStart a addr off =
      .ok { a with labels :=
        UMap.insert a.labels addr (Option.getD (UMap.get a.labels addr) [] ++ [name]) } := by
  unfold parseLabelAt
  rw [Nat.add_comm _ 0x20, ← Nat.add_assoc, sjisAt_of_strAt ctx hD henc hstr]
  simp only []
  unfold writeLabel
  rw [validateAddress_le (by unfold size; rw [hb.length ctx]; exact haddr)]
  simp only []
  cases UMap.get a.labels addr <;> rfl

end steps

theorem nodup_of_disjoint {l : List Nat} (h : l.Pairwise (fun x y => x + 4 ≤ y ∨ y + 4 ≤ x)) :
    l.Nodup :=
  h.imp (by intro x y h e; omega)

theorem cells_nodup {K : Content} (wf : K.WF) : K.cells.Nodup := nodup_of_disjoint wf.disjoint

theorem ptrKeys_nodup {K : Content} (wf : K.WF) : (K.pointers.map (·.1)).Nodup :=
  (List.nodup_append.mp (cells_nodup wf)).1

theorem strKeys_nodup {K : Content} (wf : K.WF) : (K.strings.map (·.1)).Nodup :=
  (List.nodup_append.mp (cells_nodup wf)).2.1

theorem ptr_ne_str {K : Content} (wf : K.WF) {p : Nat × Nat} (hp : p ∈ K.pointers)
    {q : Nat × Str} (hq : q ∈ K.strings) : p.1 ≠ q.1 :=
  (List.nodup_append.mp (cells_nodup wf)).2.2 p.1 (List.mem_map_of_mem hp) q.1 (List.mem_map_of_mem hq)

theorem foldlM_ok_of_inv {α ι : Type} (f : α → ι → Res α) (Inv : List ι → α → Prop) (P : ι → Prop)
    (step : ∀ done a x, P x → Inv done a → ∃ a', f a x = .ok a' ∧ Inv (done ++ [x]) a') :
    ∀ (xs done : List ι) (a : α), Inv done a → (∀ x ∈ xs, P x) →
      ∃ a', xs.foldlM f a = .ok a' ∧ Inv (done ++ xs) a' := by
  intro xs
  induction xs with
  | nil => intro done a inv _; exact ⟨a, rfl, by simpa using inv⟩
  | cons x xs ih =>
    intro done a inv hP
    obtain ⟨a1, h1, inv1⟩ := step done a x (hP x (by simp)) inv
    obtain ⟨a', h2, inv2⟩ := ih (done ++ [x]) a1 inv1 (fun y hy => hP y (by simp [hy]))
    exact ⟨a', by rw [List.foldlM_cons, h1]; exact h2, by simpa using inv2⟩

/-! A map `m` under construction holds the entries of `M` at the keys handled so far. -/

theorem lookup_insert {ν : Type} {m M : UMap Nat ν} {done : List Nat}
    (h : ∀ y, UMap.get m y = if y ∈ done then UMap.get M y else none) {x : Nat} {v : ν}
    (hx : UMap.get M x = some v) (y : Nat) :
    UMap.get (UMap.insert m x v) y = if y ∈ done ++ [x] then UMap.get M y else none := by
  rw [UMap.get_insert, h y]
  by_cases hy : y = x
  · subst hy; simp [hx]
  · simp [hy]

theorem lookup_skip {ν : Type} {m M : UMap Nat ν} {done : List Nat}
    (h : ∀ y, UMap.get m y = if y ∈ done then UMap.get M y else none) {x : Nat}
    (hx : UMap.get M x = none) (y : Nat) :
    UMap.get m y = if y ∈ done ++ [x] then UMap.get M y else none := by
  rw [h y]
  by_cases hy : y = x
  · subst hy; simp [hx]
  · simp [hy]

theorem lookup_done {ν : Type} {m M : UMap Nat ν} {done : List Nat}
    (h : ∀ y, UMap.get m y = if y ∈ done then UMap.get M y else none)
    (hall : ∀ p ∈ M, p.1 ∈ done) (y : Nat) : UMap.get m y = UMap.get M y := by
  rw [h y]
  split
  · rfl
  · rename_i hy
    exact ((UMap.get_eq_none_iff M y).mpr fun p hp e => hy (e ▸ hall p hp)).symm

structure PtrInv (e : Endian) (f : Bytes) (K : Content) (done : List Nat) (a : BinArchive) : Prop where
  base : Base e f K a
  labels : a.labels = []
  cstrings : a.cstrings = []
  ndT : (a.text.map (·.1)).Nodup
  ndP : (a.pointers.map (·.1)).Nodup
  getT : ∀ y, UMap.get a.text y = if y ∈ done then UMap.get K.strings y else none
  getP : ∀ y, UMap.get a.pointers y = if y ∈ done then UMap.get K.pointers y else none

section loops
variable {c : Codec} {D : Str → Prop} {e : Endian} {f : Bytes} {K : Content}

theorem ptr_step (ctx : Ctx c D e f K) (done : List Nat) (a : BinArchive) (x : Nat)
    (hx : x ∈ K.cells) (inv : PtrInv e f K done a) :
    ∃ a', parsePointerAt c f K.data.length a x = .ok a' ∧ PtrInv e f K (done ++ [x]) a' := by
  rcases List.mem_append.mp hx with hm | hm
  · obtain ⟨p, hp, rfl⟩ := List.mem_map.mp hm
    exact ⟨_, parsePointerAt_pointer ctx inv.base hp, inv.base, inv.labels, inv.cstrings, inv.ndT,
      UMap.keys_insert_nodup _ _ _ inv.ndP, lookup_skip inv.getT
        ((UMap.get_eq_none_iff _ _).mpr fun _ hq e => ptr_ne_str ctx.wf hp hq e.symm),
      lookup_insert inv.getP ((UMap.mem_iff_get (ptrKeys_nodup ctx.wf) p).mp hp)⟩
  · obtain ⟨p, hp, rfl⟩ := List.mem_map.mp hm
    exact ⟨_, parsePointerAt_string ctx inv.base hp, inv.base, inv.labels, inv.cstrings,
      UMap.keys_insert_nodup _ _ _ inv.ndT, inv.ndP,
      lookup_insert inv.getT ((UMap.mem_iff_get (strKeys_nodup ctx.wf) p).mp hp),
      lookup_skip inv.getP ((UMap.get_eq_none_iff _ _).mpr fun _ hq e => ptr_ne_str ctx.wf hq hp e)⟩

structure LblInv (e : Endian) (f : Bytes) (K : Content) (a0 : BinArchive)
    (done : List (Nat × Nat × Bytes)) (a : BinArchive) : Prop where
  base : Base e f K a
  text : a.text = a0.text
  pointers : a.pointers = a0.pointers
  cstrings : a.cstrings = []
  nd : (a.labels.map (·.1)).Nodup
  bucket : ∀ y, (UMap.get a.labels y).getD [] = (done.filter (fun r => r.1 = y)).map (·.2.2)
  nonempty : ∀ p ∈ a.labels, p.2 ≠ []

/-- What the label loop needs to know about one table entry. -/
def EntryOK (c : Codec) (D : Str → Prop) (f : Bytes) (K : Content) (r : Nat × Nat × Bytes) : Prop :=
  D r.2.2 ∧ r.1 ≤ K.data.length ∧ ∃ b, c.enc r.2.2 = some b ∧ StrAt f (0x20 + K.textStart + r.2.1) b

theorem lbl_step (ctx : Ctx c D e f K) (a0 : BinArchive) (done : List (Nat × Nat × Bytes))
    (a : BinArchive) (r : Nat × Nat × Bytes) (hr : EntryOK c D f K r) (inv : LblInv e f K a0 done a) :
    ∃ a', parseLabelAt c f K.textStart a r.1 r.2.1 = .ok a' ∧ LblInv e f K a0 (done ++ [r]) a' := by
  obtain ⟨hD, haddr, b, henc, hstr⟩ := hr
  refine ⟨_, parseLabelAt_entry ctx inv.base hD haddr henc hstr, inv.base, inv.text, inv.pointers,
    inv.cstrings, UMap.keys_insert_nodup _ _ _ inv.nd, ?_, ?_⟩
  · intro y
    show (UMap.get (UMap.insert a.labels r.1 _) y).getD [] = _
    rw [UMap.get_insert, List.filter_append, List.map_append]
    by_cases hy : y = r.1
    · subst hy; simp [inv.bucket]
    · have : ¬ r.1 = y := fun e => hy e.symm
      simp [hy, this, inv.bucket]
  · exact UMap.forall_mem_insert (by simp) inv.nonempty

end loops

theorem labelsAt_eq_get (K : Content) (x : Nat) : K.labelsAt x = (UMap.get K.labels x).getD [] := rfl

theorem labelsAt_mem {K : Content} {x : Nat} {n : Bytes} (h : n ∈ K.labelsAt x) :
    ∃ p ∈ K.labels, p.1 = x ∧ n ∈ p.2 := by
  rw [labelsAt_eq_get] at h
  cases hg : UMap.get K.labels x with
  | none => rw [hg] at h; cases h
  | some v => rw [hg] at h; exact ⟨(x, v), UMap.mem_of_get hg, rfl, h⟩

theorem parse_conforming {c : Codec} {D : Str → Prop} {e : Endian} {f : Bytes} {K : Content}
    (ctx : Ctx c D e f K) : ∃ b, parse c e f = .ok b ∧ Parsed e f K b := by
  obtain ⟨t, hperm, hwords⟩ := ctx.conf.ptrTable
  obtain ⟨lt, hltlen, hentries, hfilter⟩ := ctx.conf.lblTable
  have hfits := ctx.conf.fits
  have hts : K.data.length + K.cells.length * 4 + K.labelCount * 8 = K.textStart := by
    rw [Content.textStart, Nat.mul_comm _ 4, Nat.mul_comm _ 8]
  -- the pointer loop, run over the table `t` itself, keeps `PtrInv` (`ptr_step`); the loop of
  -- `from_bytes` over the indices reads exactly `t` (`range_foldlM`)
  let a0 : BinArchive := { BinArchive.new e with data := slice f 0x20 K.data.length }
  have inv0 : PtrInv e f K [] a0 :=
    ⟨⟨rfl, rfl⟩, rfl, rfl, List.nodup_nil, List.nodup_nil, fun _ => rfl, fun _ => rfl⟩
  obtain ⟨a1, hf1, inv1⟩ := foldlM_ok_of_inv _ (PtrInv e f K) (· ∈ K.cells) (ptr_step ctx) t [] a0 inv0
    (fun x hx => hperm.mem_iff.mp hx)
  have hfold1 : (List.range K.cells.length).foldlM
      (fun a i => parsePointer c e f K.data.length a (0x20 + K.data.length + 4 * i)) a0 = .ok a1 := by
    rw [← hperm.length_eq, List.range_eq_range', range_foldlM _ (parsePointerAt c f K.data.length) t 0 a0]
    · exact hf1
    · intro j hj a
      unfold parsePointer
      rw [Nat.zero_add, u32At_eq_wordAt, hwords j hj]
  -- the label loop likewise, over the entries `lt`, each of which resolves (`EntryOK`)
  have hok : ∀ r ∈ lt, EntryOK c D f K r := by
    intro r hr
    obtain ⟨i, hi, rfl⟩ := List.getElem_of_mem hr
    have hmem : lt[i].2.2 ∈ K.labelsAt lt[i].1 := by
      rw [← hfilter lt[i].1]
      exact List.mem_map.mpr ⟨lt[i], List.mem_filter.mpr ⟨hr, by simp⟩, rfl⟩
    obtain ⟨p, hp, hpx, hn⟩ := labelsAt_mem hmem
    exact ⟨ctx.domL p hp _ hn, hpx ▸ ctx.wf.labelAddrs p hp, (hentries i hi).2.2⟩
  have invL0 : LblInv e f K a1 [] a1 :=
    ⟨inv1.base, rfl, rfl, inv1.cstrings, by rw [inv1.labels]; exact List.nodup_nil,
     by intro y; rw [inv1.labels]; rfl, by intro p hp; rw [inv1.labels] at hp; cases hp⟩
  obtain ⟨a2, hf2, inv2⟩ := foldlM_ok_of_inv _ (LblInv e f K a1) (EntryOK c D f K) (lbl_step ctx a1)
    lt [] a1 invL0 hok
  have hfold2 : (List.range K.labelCount).foldlM
      (fun a i => parseLabel c e f K.textStart a (0x20 + K.data.length + 4 * K.cells.length + 8 * i)) a1
      = .ok a2 := by
    rw [← hltlen, List.range_eq_range',
      range_foldlM _ (fun a (r : Nat × Nat × Bytes) => parseLabelAt c f K.textStart a r.1 r.2.1) lt 0 a1]
    · exact hf2
    · intro j hj a
      unfold parseLabel
      rw [Nat.zero_add, u32At_eq_wordAt, u32At_eq_wordAt, (hentries j hj).1, (hentries j hj).2.1]
  refine ⟨a2, ?_, ?_⟩
  · unfold parse
    rw [if_neg (Nat.not_lt.mpr (Nat.le_trans (Nat.le_add_right _ _) hfits))]
    simp only [dec_slice_of_wordAt ctx.conf.hData, dec_slice_of_wordAt ctx.conf.hPtrs,
      dec_slice_of_wordAt ctx.conf.hLbls, hts]
    rw [if_neg (Nat.not_lt.mpr (Nat.add_comm _ _ ▸ hfits)), hfold1]
    exact hfold2
  · simp only [List.nil_append] at inv1 inv2
    exact {
      data := inv2.base.1
      endian := inv2.base.2
      cstrings := inv2.cstrings
      text := by
        rw [inv2.text]
        exact UMap.perm_of_get_eq inv1.ndT (strKeys_nodup ctx.wf) (lookup_done inv1.getT fun p hp =>
          hperm.mem_iff.mpr (List.mem_append_right _ (List.mem_map_of_mem hp)))
      pointers := by
        rw [inv2.pointers]
        exact UMap.perm_of_get_eq inv1.ndP (ptrKeys_nodup ctx.wf) (lookup_done inv1.getP fun p hp =>
          hperm.mem_iff.mpr (List.mem_append_left _ (List.mem_map_of_mem hp)))
      labelKeys := inv2.nd
      labels := by intro x; rw [inv2.bucket x, hfilter x]
      nonempty := inv2.nonempty }

end Mila.Ser
