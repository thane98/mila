/- `splitOn'` / `joinWith`, and `Path::parent` / `Path::file_name` (`Localize.pathSplit`) on strings
made of plain components (C14 and the filesystem properties). -/
import MilaModel.Model.Localize
import MilaModel.Spec.LocalizeTable

namespace Mila
variable {α : Type} [DecidableEq α]

theorem splitOn'_ne_nil (sep : α) (l : List α) : splitOn' sep l ≠ [] := by
  fun_induction splitOn' sep l <;> simp

theorem splitOn'_nosep (sep : α) (p : List α) (h : sep ∉ p) : splitOn' sep p = [p] := by
  induction p with
  | nil => rfl
  | cons x xs ih =>
    rw [List.mem_cons, not_or] at h
    simp [splitOn', Ne.symm h.1, ih h.2]

theorem splitOn'_append_sep (sep : α) (p rest : List α) (h : sep ∉ p) :
    splitOn' sep (p ++ sep :: rest) = p :: splitOn' sep rest := by
  induction p with
  | nil => simp [splitOn']
  | cons x xs ih =>
    rw [List.mem_cons, not_or] at h
    simp [splitOn', Ne.symm h.1, ih h.2]

theorem splitOn'_joinWith (sep : α) (ps : List (List α)) (hne : ps ≠ [])
    (h : ∀ p ∈ ps, sep ∉ p) : splitOn' sep (joinWith sep ps) = ps := by
  induction ps with
  | nil => exact absurd rfl hne
  | cons p ps ih =>
    cases ps with
    | nil => simp [joinWith, splitOn'_nosep sep p (h p (by simp))]
    | cons q qs =>
      have hp : sep ∉ p := h p (by simp)
      have : splitOn' sep (joinWith sep (q :: qs)) = q :: qs :=
        ih (by simp) (fun r hr => h r (by simp [hr]))
      simp [joinWith, splitOn'_append_sep sep p _ hp, this]

omit [DecidableEq α] in
theorem joinWith_append_singleton (sep : α) (ps : List (List α)) (l : List α) (hne : ps ≠ []) :
    joinWith sep (ps ++ [l]) = joinWith sep ps ++ sep :: l := by
  induction ps with
  | nil => exact absurd rfl hne
  | cons p ps ih =>
    cases ps with
    | nil => rfl
    | cons q qs =>
      show p ++ sep :: joinWith sep ((q :: qs) ++ [l]) = (p ++ sep :: joinWith sep (q :: qs)) ++ sep :: l
      rw [ih (by simp), List.append_assoc]
      rfl

omit [DecidableEq α] in
theorem joinWith_head (sep x : α) (xs : List α) (ps : List (List α)) :
    (joinWith sep ((x :: xs) :: ps)).head? = some x := by
  cases ps <;> rfl

end Mila

namespace Mila.Localize
open Mila.Spec.Loc (Plain)

@[simp] theorem _root_.Mila.Spec.Loc.slash_eq : Spec.Loc.slash = slash := rfl

theorem plain_isComp {c : Bytes} (h : Plain c) (i : Nat) : isComp false i c = true := by
  obtain ⟨hne, _, hdot, _⟩ := h
  have : c ≠ [dot] := hdot
  simp [isComp, this, hne]

theorem lastComp_append (r : Bool) (xs ys : List Bytes) (n : Nat) (hn : n ≤ xs.length) :
    lastComp r (xs ++ ys) n = lastComp r xs n := by
  induction n with
  | zero => rfl
  | succ n ih =>
    simp only [lastComp, List.getD_eq_getElem?_getD, List.getElem?_append_left (show n < xs.length by omega),
      ih (by omega)]

theorem lastComp_snoc (r : Bool) (xs : List Bytes) (t : Bytes) :
    lastComp r (xs ++ [t]) (xs ++ [t]).length =
      if isComp r xs.length t then some xs.length else lastComp r xs xs.length := by
  simp [lastComp, lastComp_append r xs [t] xs.length (Nat.le_refl _)]

/-- Trailing empty and `.` pieces (`d/l/`, `d/l/.`, `d/l//`) are not components. -/
theorem lastComp_skip (r : Bool) (xs tail : List Bytes) (hx : xs ≠ [])
    (ht : ∀ t ∈ tail, t = [] ∨ t = [dot]) :
    lastComp r (xs ++ tail) (xs ++ tail).length = lastComp r xs xs.length := by
  induction tail generalizing xs with
  | nil => simp
  | cons t ts ih =>
    have hpos : xs.length ≠ 0 := fun e => hx (List.length_eq_zero_iff.mp e)
    have ht0 : isComp r xs.length t = false := by
      rcases ht t (by simp) with rfl | rfl <;> simp [isComp, hpos]
    rw [show xs ++ t :: ts = (xs ++ [t]) ++ ts by simp, ih _ (by simp) fun u hu => ht u (by simp [hu]),
      lastComp_snoc, ht0]
    rfl

theorem lastComp_plain (ps : List Bytes) (h : ∀ c ∈ ps, Plain c) :
    lastComp false ps ps.length = if ps = [] then none else some (ps.length - 1) := by
  rcases List.eq_nil_or_concat ps with rfl | ⟨qs, q, rfl⟩
  · rfl
  · rw [List.concat_eq_append] at h ⊢
    rw [lastComp_snoc, plain_isComp (h q (by simp))]
    simp

/-- `Path::parent` / `Path::file_name` on a relative path of plain components, possibly followed
by pieces that std skips. -/
theorem pathSplit_plain_skipped (dir : List Bytes) (l : Bytes) (tail : List Bytes)
    (hd : ∀ c ∈ dir, Plain c) (hl : Plain l) (ht : ∀ t ∈ tail, t = [] ∨ t = [dot]) :
    pathSplit (joinWith slash (dir ++ l :: tail)) = ⟨some (joinWith slash dir), some l⟩ := by
  have hsplit : splitOn' slash (joinWith slash (dir ++ l :: tail)) = dir ++ l :: tail := by
    refine splitOn'_joinWith slash _ (by simp) fun p hp => ?_
    rcases List.mem_append.mp hp with hp | hp
    · exact (hd p hp).2.1
    · rcases List.mem_cons.mp hp with rfl | hp
      · exact hl.2.1
      · rcases ht p hp with rfl | rfl <;> decide
  -- the string starts with the first byte of its first component, which is not a slash
  have hroot : ((joinWith slash (dir ++ l :: tail)).head? = some slash) = False := by
    obtain ⟨p, rest, hp, hpl⟩ : ∃ p rest, dir ++ l :: tail = p :: rest ∧ Plain p := by
      cases dir with
      | nil => exact ⟨l, tail, rfl, hl⟩
      | cons p ps => exact ⟨p, ps ++ l :: tail, rfl, hd p (by simp)⟩
    obtain ⟨x, xs, rfl⟩ := List.exists_cons_of_ne_nil hpl.1
    rw [hp, joinWith_head]
    simp only [Option.some.injEq, eq_iff_iff, iff_false]
    rintro rfl
    exact hpl.2.1 (by simp)
  have hlast : lastComp false (dir ++ l :: tail) (dir ++ l :: tail).length = some dir.length := by
    rw [show dir ++ l :: tail = (dir ++ [l]) ++ tail by simp, lastComp_skip _ _ _ (by simp) ht,
      lastComp_snoc, plain_isComp hl]
    rfl
  obtain ⟨_, _, hdot, hdd⟩ := hl
  have h1 : (l = [dot, dot]) = False := by simpa [dot] using hdd
  have h2 : (l = [dot]) = False := by simpa [dot] using hdot
  unfold pathSplit
  simp only [hsplit, hroot, decide_false, hlast, lastComp_append false dir _ dir.length (Nat.le_refl _),
    lastComp_plain dir hd]
  have hget : (dir ++ l :: tail).getD dir.length [] = l := by simp
  simp only [hget, h1, h2, if_false]
  by_cases hdir : dir = []
  · simp [hdir, joinWith]
  · have : dir.length - 1 + 1 = dir.length := by
      have : 0 < dir.length := List.length_pos_iff.mpr hdir
      omega
    simp [hdir, this]

end Mila.Localize
