/-
Compressor loop invariants (C08, C09): the bytes emitted by `compress10Loop` / `compress13Loop`
are the flag-group encoding of the tokens described by `StepsTo` (`Inv`, `Post`), hence a stream that
expands, and that the decoder decodes, to the input (`post_correct`, `post_roundtrip`).
-/
import MilaModel.Lemmas.LzSteps
import MilaModel.Lemmas.LzDecode

namespace Mila.Lz
open Mila.Spec.Lz

/-- A high and a low nibble do not overlap (256 cases, by evaluation). -/
theorem or16 (a b : Nat) (ha : a < 16) (hb : b < 16) :
    UInt8.ofNat (16 * a) ||| UInt8.ofNat b = UInt8.ofNat (16 * a + b) := by
  have : ∀ a b : Fin 16,
      UInt8.ofNat (16 * a.val) ||| UInt8.ofNat b.val = UInt8.ofNat (16 * a.val + b.val) := by
    decide +kernel
  exact this ⟨a, ha⟩ ⟨b, hb⟩

theorem modifyLast (a : BA) (v : UInt8) (g : UInt8 → UInt8) :
    (a.push v).modify ((a.push v).size - 1) g = a.push (g v) := by
  apply Array.ext
  · simp
  · intro i h1 h2
    simp [Array.getElem_modify, Array.getElem_push]
    split <;> split <;> simp_all <;> omega

theorem and0F_eq (i : Int) (a : Nat) (h : i % 16 = a) : and0F i = UInt8.ofNat a := by
  rw [and0F, h, Int.toNat_natCast]

theorem andFF_eq (i : Int) (a : Nat) (h : i % 256 = a) : andFF i = UInt8.ofNat a := by
  rw [andFF, h, Int.toNat_natCast]

theorem andF0_eq (i : Int) (a : Nat) (h : i % 16 = a) : andF0 (i * 16) = UInt8.ofNat (16 * a) := by
  have : i * 16 % 256 / 16 * 16 = ((16 * a : Nat) : Int) := by omega
  rw [andF0, this, Int.toNat_natCast]

/-- The last two bytes of every reference form: low nibble of the length field over the high
nibble of the displacement, then its low byte (lz10.rs:51-55, lz13.rs:229-233). -/
theorem emit_tail (i : Int) (a disp : Nat) (ha : a < 16) (h : i % 16 = a) (hd1 : 1 ≤ disp)
    (hd2 : disp ≤ 4096) :
    [andF0 (i * 16) ||| and0F (((disp - 1 : Nat) : Int) / 256), andFF ((disp - 1 : Nat) : Int)]
      = [UInt8.ofNat (16 * a + (disp - 1) / 256), UInt8.ofNat ((disp - 1) % 256)] := by
  rw [andF0_eq i a h, and0F_eq _ ((disp - 1) / 256) (by omega), andFF_eq _ ((disp - 1) % 256) (by omega),
    or16 _ _ ha (by omega)]

theorem toNat_or_flagBit (f : UInt8) (blocks : Nat) :
    (f ||| flagBit blocks).toNat = f.toNat ||| 2 ^ (7 - blocks) := by
  have hlt : 2 ^ (7 - blocks) < 2 ^ 8 := Nat.pow_lt_pow_right (by omega) (by omega)
  rw [UInt8.toNat_or, flagBit, UInt8.toNat_ofNat', Nat.mod_eq_of_lt hlt]

/-- `buf` holds the header and the bytes `db` of the full groups `done` (whatever groups follow
them, the whole is a group stream), `outBuf` the flag byte and tokens of the group in progress (the
flag byte is the specification's `flagOf`, so its unused bits are still zero), and the tokens so far
are the greedy steps up to `read`. -/
def Inv (ext : Bool) (cap : Nat) (hdr : Bytes) (x buf outBuf : BA) (blocks read : Nat) : Prop :=
  ∃ (done grp : List Tok) (db : Bytes) (f : UInt8),
    buf.toList = hdr ++ db ∧ (∀ rest bs, Groups ext rest bs → Groups ext (done ++ rest) (db ++ bs)) ∧
    outBuf.toList = f :: grp.flatMap (tokBytes ext) ∧ grp.length = blocks ∧ blocks ≤ 8 ∧
    f.toNat = flagOf 0 grp ∧
    StepsTo x cap (done ++ grp) read

/-- What both compressors establish. -/
def Post (ext : Bool) (cap : Nat) (hdr : Bytes) (x : BA) (r : Res BA) : Prop :=
  ∃ out toks body, r = .ok out ∧ out.toList = hdr ++ body ∧ Groups ext toks body ∧
    StepsTo x cap toks x.size

theorem post_correct {ext : Bool} {cap : Nat} {hdr : Bytes} {x : BA} {r : Res BA}
    (h : Post ext cap hdr x r) (hcap : ∀ len, 3 ≤ len → len ≤ cap → lenOk ext len) :
    ∃ out toks body, r = .ok out ∧ out.toList = hdr ++ body ∧ Groups ext toks body ∧
      Valid ext toks ∧ expand toks = x := by
  obtain ⟨out, toks, body, h1, h2, h3, h4⟩ := h
  obtain ⟨v, e⟩ := stepsTo_sound x cap ext hcap toks x.size h4
  exact ⟨out, toks, body, h1, h2, h3, v, by rw [e, Array.extract_eq_self_of_le (Nat.le_refl _)]⟩

/-- `pre` is what the compressor puts in front of the stream header: nothing for LZ10, the `0x13`
wrapper for LZ13. -/
theorem post_roundtrip {ext : Bool} {cap : Nat} {pre : Bytes} {x : BA} {r : Res BA}
    (h : Post ext cap (pre ++ header ext x.size) x r)
    (hcap : ∀ len, 3 ≤ len → len ≤ cap → lenOk ext len)
    (hb : x.size < (if ext then 2 ^ 32 else 2 ^ 24)) :
    ∃ out s, r = .ok out ∧ out.toList = pre ++ s ∧ decompressLz s = .ok x := by
  obtain ⟨out, toks, body, h1, h2, h3, v, e⟩ := post_correct h hcap
  refine ⟨out, header ext x.size ++ body, h1, by rw [h2, List.append_assoc], ?_⟩
  have hd := decompressLz_encodes ext x.size toks _ ⟨body, rfl, h3⟩ v (by rw [e]) hb
  rwa [e] at hd

theorem Post.ok {ext : Bool} {cap : Nat} {hdr : Bytes} {x : BA} {r : Res BA}
    (h : Post ext cap hdr x r) : ∃ out, r = .ok out := by
  obtain ⟨out, _, _, h1, _⟩ := h
  exact ⟨out, h1⟩

theorem inv_init (ext : Bool) (cap : Nat) (hdr : Bytes) (x buf : BA) (h : buf.toList = hdr) :
    Inv ext cap hdr x buf #[0] 0 0 :=
  ⟨[], [], [], 0, by simp [h], fun _ _ h => h, by simp, rfl, by omega, rfl, StepsTo.nil⟩

theorem inv_flush {ext : Bool} {cap : Nat} {hdr : Bytes} {x buf outBuf : BA} {read : Nat}
    (h : Inv ext cap hdr x buf outBuf 8 read) : Inv ext cap hdr x (buf ++ outBuf) #[0] 0 read := by
  obtain ⟨done, grp, db, f, h1, h2, h3, h4, _, h6, h7⟩ := h
  have hne : grp ≠ [] := by intro h; subst h; simp at h4
  refine ⟨done ++ grp, [], db ++ f :: grp.flatMap (tokBytes ext), 0, by simp [h1, h3], ?_, by simp, rfl,
    by omega, rfl, by simpa using h7⟩
  intro rest bs hg
  have := h2 _ _ (Groups.group f grp rest bs hne (by omega) (fun _ => h4) (flagOk_of_flagOf h6 (by omega)) hg)
  simpa using this

/-- The head of both loops while input remains (lz10.rs:28-42, lz13.rs:200-213): after the optional
flush the invariant holds with a group in progress of fewer than eight tokens, and the search
returns. -/
theorem loop_head {ext : Bool} {cap : Nat} {hdr : Bytes} {x buf outBuf : BA} {blocks read : Nat}
    (h : Inv ext cap hdr x buf outBuf blocks read) (hr : read < x.size) :
    ∃ b' o' k' len disp, (if blocks = 8 then buf ++ outBuf else buf) = b' ∧
      (if blocks = 8 then #[0] else outBuf) = o' ∧ (if blocks = 8 then 0 else blocks) = k' ∧
      Inv ext cap hdr x b' o' k' read ∧ k' < 8 ∧ search x cap read = .ok (len, disp) := by
  obtain ⟨len, disp, hs⟩ := search_ok x cap read hr
  refine ⟨_, _, _, len, disp, rfl, rfl, rfl, ?_, ?_, hs⟩
  · by_cases h8 : blocks = 8
    · subst h8
      exact inv_flush h
    · simpa only [h8, ↓reduceIte] using h
  · have hle : blocks ≤ 8 := by obtain ⟨_, _, _, _, _, _, _, _, h5, _⟩ := h; exact h5
    split <;> omega

theorem inv_lit {ext : Bool} {cap : Nat} {hdr : Bytes} {x buf outBuf : BA} {blocks read len disp : Nat}
    (h : Inv ext cap hdr x buf outBuf blocks read) (hb : blocks < 8) (hr : read < x.size)
    (hs : search x cap read = .ok (len, disp)) (hl : len < 3) :
    Inv ext cap hdr x buf (outBuf.push x[read]) (blocks + 1) (read + 1) := by
  obtain ⟨done, grp, db, f, h1, h2, h3, h4, _, h6, h7⟩ := h
  refine ⟨done, grp ++ [.lit x[read]], db, f, h1, h2, ?_, by simp [h4], by omega, ?_, ?_⟩
  · simp [h3, tokBytes]
  · rw [flagOf_snoc]; simpa [Tok.isRef] using h6
  · rw [← List.append_assoc]; exact StepsTo.lit _ _ len disp hr h7 hs hl

theorem inv_ref {ext : Bool} {cap : Nat} {hdr : Bytes} {x buf outBuf : BA}
    {blocks read len disp : Nat}
    (h : Inv ext cap hdr x buf outBuf blocks read) (hb : blocks < 8) (hr : read < x.size)
    (hs : search x cap read = .ok (len, disp)) (hl : 3 ≤ len) :
    Inv ext cap hdr x buf
      ((tokBytes ext (.ref len disp)).foldl Array.push (outBuf.modify 0 (· ||| flagBit blocks)))
      (blocks + 1) (read + len) := by
  obtain ⟨done, grp, db, f, h1, h2, h3, h4, _, h6, h7⟩ := h
  refine ⟨done, grp ++ [.ref len disp], db, f ||| flagBit blocks, h1, h2, ?_, by simp [h4],
    by omega, ?_, ?_⟩
  · simp [Array.toList_modify, h3]
  · rw [toNat_or_flagBit, flagOf_snoc, h6]; simp [Tok.isRef, h4]
  · rw [← List.append_assoc]; exact StepsTo.ref _ _ len disp hr h7 hs hl

theorem inv_final {ext : Bool} {cap : Nat} {hdr : Bytes} {x buf outBuf : BA} {blocks read : Nat}
    (h : Inv ext cap hdr x buf outBuf blocks read) (hr : ¬ read < x.size) :
    Post ext cap hdr x (.ok (if blocks > 0 then buf ++ outBuf else buf)) := by
  obtain ⟨done, grp, db, f, h1, h2, h3, h4, h5, h6, h7⟩ := h
  have hle := stepsTo_le h7
  have hrd : read = x.size := by omega
  subst hrd
  by_cases hb : blocks > 0
  · have hne : grp ≠ [] := by intro h; subst h; simp at h4; omega
    have := h2 _ _ (Groups.group f grp [] [] hne (by omega) (by simp) (flagOk_of_flagOf h6 (by omega))
      Groups.nil)
    exact ⟨_, done ++ grp, db ++ f :: grp.flatMap (tokBytes ext), rfl, by simp [hb, h1, h3],
      by simpa using this, h7⟩
  · have : grp = [] := List.eq_nil_of_length_eq_zero (by omega)
    subst this
    exact ⟨_, done, db, rfl, by simp [hb, h1], by simpa using h2 [] [] Groups.nil, by simpa using h7⟩

theorem inv_outBuf_size {ext : Bool} {cap : Nat} {hdr : Bytes} {x buf outBuf : BA} {blocks read : Nat}
    (h : Inv ext cap hdr x buf outBuf blocks read) (m : Nat)
    (hm : ∀ t, (tokBytes ext t).length ≤ m) : 1 ≤ outBuf.size ∧ outBuf.size ≤ 1 + m * blocks := by
  obtain ⟨done, grp, db, f, _, _, h3, h4, _, _, _⟩ := h
  have hsz : outBuf.size = outBuf.toList.length := by simp
  rw [hsz, h3]
  subst h4
  have : ∀ g : List Tok, (g.flatMap (tokBytes ext)).length ≤ m * g.length := by
    intro g
    induction g with
    | nil => simp
    | cons t ts ih =>
      rw [List.flatMap_cons, List.length_append, List.length_cons, Nat.mul_succ]
      have := hm t
      omega
  have := this grp
  simp only [List.length_cons]
  omega

theorem injective_of_roundtrip {c : BA → Res BA} {d : Bytes → Res BA} {x y : BA}
    (hx : ∃ out, c x = .ok out ∧ d out.toList = .ok x)
    (hy : ∃ out, c y = .ok out ∧ d out.toList = .ok y) (h : c x = c y) : x = y := by
  obtain ⟨ox, hx1, hx2⟩ := hx
  obtain ⟨oy, hy1, hy2⟩ := hy
  obtain rfl : ox = oy := Res.ok.inj (hx1.symm.trans (h.trans hy1))
  exact Res.ok.inj (hx2.symm.trans hy2)

end Mila.Lz
