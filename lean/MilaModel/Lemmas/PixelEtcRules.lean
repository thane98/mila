/-
C19: the model's ETC1 texel function equals the Khronos rules on every legal block.
Finite facts (5-bit expansion, modifier table) are decided completely; the block word is split into
its bit fields by unfolding.
-/
import MilaModel.Model.Etc1
import MilaModel.Spec.Etc1Rules

namespace Mila.Etc1
open Spec.Etc1

theorem expand5_ext5 : ∀ r, r < 32 → ((expand5 r : Nat) : Int) = ext5 (r : Nat) := by decide

/-- The second base colour in differential mode: the wrapping `u8` sum with the complemented delta is
the signed sum `n` when that is not negative, and `n` is a 5-bit value. -/
theorem expand5_second {r d : Nat} (hd : d < 8)
    (lo : 0 ≤ (r : Int) + delta3 d) (hi : (r : Int) + delta3 d ≤ 31) :
    ((expand5 ((r + complement d 3) % 256) : Nat) : Int) = ext5 ((r : Int) + delta3 d) := by
  obtain ⟨n, hn⟩ := Int.eq_ofNat_of_zero_le lo
  rw [hn] at hi ⊢
  have e : (r + complement d 3) % 256 = n := by
    unfold delta3 at hn
    simp only [complement, Nat.reducePow, Nat.reduceSub, Nat.reduceMod]
    by_cases h : d < 4
    · rw [if_pos h] at hn
      rw [if_pos (by omega)]
      omega
    · rw [if_neg h] at hn
      rw [if_neg (by omega)]
      omega
  rw [e]
  exact expand5_ext5 n (by omega)

theorem ext4_eq (v : Nat) (h : v < 16) : ((v * 0x11 % 256 : Nat) : Int) = ext4 v := by
  unfold ext4; omega

theorem modifier_eq : ∀ cw, cw < 8 → ∀ msb, msb < 2 → ∀ lsb, lsb < 2 →
    (if msb = 1 then -(((if lsb = 0 then (modifiers.getD cw (0, 0)).1 else (modifiers.getD cw (0, 0)).2) : Nat) : Int)
      else (((if lsb = 0 then (modifiers.getD cw (0, 0)).1 else (modifiers.getD cw (0, 0)).2) : Nat) : Int)) =
    modifier cw msb lsb := by decide

theorem clampAdd_eq (c : Nat) (a : Int) : ((clampAdd c a : Nat) : Int) = clamp255 ((c : Int) + a) := by
  unfold clampAdd clamp255; omega

/-- channel `ch` of a colour triple -/
def tri (t : Nat × Nat × Nat) : Nat → Nat
  | 0 => t.1 | 1 => t.2.1 | _ => t.2.2

theorem base_eq (word : Nat) (hl : Legal word) (ch : Nat) (hch : ch < 3) :
    ((tri (baseColors word).1 ch : Nat) : Int) = base word 1 ch ∧
    ((tri (baseColors word).2 ch : Nat) : Int) = base word 2 ch := by
  have hc : ch = 0 ∨ ch = 1 ∨ ch = 2 := by omega
  unfold baseColors base diffBit
  -- for each literal channel the specification's fields (`59 - 8 * ch` …) evaluate to the model's shifts
  by_cases hd : word / 2 ^ 33 % 2 = 1
  · have hd' : field word 33 1 = 1 := hd
    obtain ⟨lo, hi⟩ := hl (decide_eq_true hd') ch hch
    simp only [hd, hd', if_true, decide_true]
    rcases hc with rfl | rfl | rfl <;>
      exact ⟨expand5_ext5 _ (Nat.mod_lt _ (by decide)),
        expand5_second (Nat.mod_lt _ (by decide)) lo hi⟩
  · have hd' : ¬ field word 33 1 = 1 := hd
    simp only [hd, hd', if_false, decide_false]
    rcases hc with rfl | rfl | rfl <;>
      exact ⟨ext4_eq _ (Nat.mod_lt _ (by decide)), ext4_eq _ (Nat.mod_lt _ (by decide))⟩

theorem bit_mod (a n k : Nat) (hk : k < n) : a % 2 ^ n / 2 ^ k % 2 = a / 2 ^ k % 2 := by
  rw [← Nat.toNat_testBit, ← Nat.toNat_testBit, Nat.testBit_mod_two_pow]
  simp [hk]

theorem chan_tri (r g b a ch : Nat) (hch : ch < 3) : (Pixel.Rgba.mk r g b a).chan ch = tri (r, g, b) ch := by
  have : ch = 0 ∨ ch = 1 ∨ ch = 2 := by omega
  rcases this with rfl | rfl | rfl <;> rfl

theorem tri_clampAdd (t : Nat × Nat × Nat) (m : Int) (ch : Nat) :
    tri (clampAdd t.1 m, clampAdd t.2.1 m, clampAdd t.2.2 m) ch = clampAdd (tri t ch) m := by
  unfold tri; split <;> rfl

/-- The model's test "the texel lies in the first subblock", on the specification's `subblock`. -/
theorem subblock_first (word x y : Nat) :
    subblock word x y = if (if word / 2 ^ 32 % 2 = 1 then y < 2 else x < 2) then 1 else 2 := by
  unfold subblock flipBit field
  by_cases h : word / 2 ^ 32 % 2 = 1 <;> simp [h]

theorem texel_rules (alphas word x y : Nat) (hx : x < 4) (hy : y < 4) (hl : Legal word)
    (ch : Nat) (hch : ch < 3) :
    (((texel alphas word x y).chan ch : Nat) : Int) = channel word x y ch := by
  obtain ⟨hb1, hb2⟩ := base_eq word hl ch hch
  have hk : x * 4 + y < 16 := by omega
  have hmod : ∀ s, _ = modifier (word / 2 ^ s % 8) (word / 2 ^ (16 + (x * 4 + y)) % 2) (word / 2 ^ (x * 4 + y) % 2) :=
    fun s => modifier_eq _ (Nat.mod_lt _ (by decide)) _ (Nat.mod_lt _ (by decide)) _ (Nat.mod_lt _ (by decide))
  unfold texel channel
  -- both sides become: clamp (base colour of the subblock + modifier of its table), under the same test
  simp only [subblock_first, field, Nat.pow_one, chan_tri _ _ _ _ _ hch, tri_clampAdd, clampAdd_eq,
    bit_mod _ _ _ hk, Nat.div_div_eq_div_mul, ← Nat.pow_add]
  by_cases first : (if word / 2 ^ 32 % 2 = 1 then y < 2 else x < 2)
  · simp only [first, if_true, hb1, hmod 37]
  · simp only [first, if_false, hb2, hmod 34]; rfl

end Mila.Etc1
