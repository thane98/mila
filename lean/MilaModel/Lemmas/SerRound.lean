/-
C01/C02 round trips: contents that agree as finite maps (and on the raw bytes outside annotated
cells) have the same canonical image; hence parse → serialize reproduces canonical files, and
serialize → parse gives back the content.
-/
import MilaModel.Lemmas.SerParse
import MilaModel.Lemmas.SerPerm

namespace Mila.Ser
open Mila.BinArchive
open Spec.Image

/-- A label bucket with at least one name (empty buckets are not content). -/
def nonEmpty {β : Type} (p : Nat × List β) : Bool := !p.2.isEmpty

theorem flatMap_filter_nonEmpty {β γ : Type} (g : Nat → β → γ) (l : List (Nat × List β)) :
    (l.filter nonEmpty).flatMap (fun p => p.2.map (g p.1)) = l.flatMap (fun p => p.2.map (g p.1)) := by
  induction l with
  | nil => rfl
  | cons p ps ih => rcases p with ⟨a, _ | ⟨b, bs⟩⟩ <;> simp [nonEmpty, ih]

theorem get_filter {β : Type} (q : Nat × β → Bool) (l : List (Nat × β)) (nd : (l.map (·.1)).Nodup)
    (x : Nat) : UMap.get (l.filter q) x = (UMap.get l x).filter (fun v => q (x, v)) := by
  apply Option.ext
  intro v
  rw [← UMap.mem_iff_get (UMap.keys_filter_nodup l q nd) (x, v), List.mem_filter, UMap.mem_iff_get nd (x, v),
    Option.filter_eq_some_iff]

/-- Without its empty buckets a label map only depends on the label list per address. -/
theorem get_filter_nonEmpty {β : Type} (l : List (Nat × List β)) (nd : (l.map (·.1)).Nodup) (x : Nat) :
    UMap.get (l.filter nonEmpty) x =
      if (UMap.get l x).getD [] = [] then none else some ((UMap.get l x).getD []) := by
  rw [get_filter _ _ nd]
  rcases UMap.get l x with _ | _ | _ <;> rfl

theorem labelEntries_congr (e : Endian) {K K' : Content}
    (nd : (K.labels.map (·.1)).Nodup) (nd' : (K'.labels.map (·.1)).Nodup)
    (h : ∀ x, K.labelsAt x = K'.labelsAt x) : labelEntries e K = labelEntries e K' := by
  have key : ∀ (K : Content), (K.labels.map (·.1)).Nodup →
      labelEntries e K = ((K.labels.filter nonEmpty).mergeSort (labelLe e)).flatMap
        (fun p => p.2.map (fun n => (p.1, n))) := by
    intro K nd
    unfold labelEntries
    rw [← sortedLabels_eq, ← flatMap_filter_nonEmpty (fun a n => (a, n)),
      filter_mergeSort (labelLe_preorder e) nonEmpty K.labels (labelLe_anti e nd)]
  rw [key K nd, key K' nd']
  congr 1
  apply mergeSort_eq_of_perm (labelLe_preorder e) (labelLe_anti e (UMap.keys_filter_nodup _ _ nd))
  apply UMap.perm_of_get_eq (UMap.keys_filter_nodup _ _ nd) (UMap.keys_filter_nodup _ _ nd')
  intro x
  rw [get_filter_nonEmpty _ nd, get_filter_nonEmpty _ nd', ← labelsAt_eq_get, ← labelsAt_eq_get, h x]

theorem patch1_agree (e : Endian) (d d' : Bytes) (x v : Nat) (S : Nat → Prop)
    (hl : d.length = d'.length) (hx : x + 4 ≤ d.length)
    (h : ∀ i, ¬ S i → d[i]? = d'[i]?) :
    ∀ i, ¬ (S i ∧ ¬ (x ≤ i ∧ i < x + 4)) → (patch1 e d x v)[i]? = (patch1 e d' x v)[i]? := by
  intro i hi
  rw [getElem?_patch1 e d x v i hx, getElem?_patch1 e d' x v i (hl ▸ hx)]
  split
  · rfl
  · exact h i fun s => hi ⟨s, ‹_›⟩

theorem patchWords_agree (e : Endian) : ∀ (ws : List (Nat × Nat)) (d d' : Bytes) (S : Nat → Prop),
    d.length = d'.length → (∀ w ∈ ws, w.1 + 4 ≤ d.length) →
    (∀ i, ¬ S i → d[i]? = d'[i]?) →
    (∀ i, S i → ∃ w ∈ ws, w.1 ≤ i ∧ i < w.1 + 4) →
    patchWords e d ws = patchWords e d' ws := by
  intro ws
  induction ws with
  | nil =>
    intro d d' S _ _ h hS
    apply List.ext_getElem?
    intro i
    apply h i
    intro s
    obtain ⟨w, hw, _⟩ := hS i s
    cases hw
  | cons w ws ih =>
    intro d d' S hl hin h hS
    rw [patchWords_cons, patchWords_cons]
    have hw := hin w (by simp)
    apply ih _ _ (fun i => S i ∧ ¬ (w.1 ≤ i ∧ i < w.1 + 4))
    · rw [length_patch1 e d w.1 w.2 hw, length_patch1 e d' w.1 w.2 (hl ▸ hw)]; exact hl
    · exact inside_patch1 e hin
    · exact patch1_agree e d d' w.1 w.2 S hl hw h
    · intro i ⟨s, hn⟩
      obtain ⟨w', hw', hr⟩ := hS i s
      rcases List.mem_cons.mp hw' with rfl | hw''
      · exact absurd hr hn
      · exact ⟨w', hw'', hr⟩

theorem canonical_congr (enc : Bytes → Option Bytes) (e : Endian) {K K' : Content}
    (wf : K.WF) (ndL' : (K'.labels.map (·.1)).Nodup) (h : ContentEq K K') :
    canonical enc e K = canonical enc e K' := by
  have hP : sortedPointers K = sortedPointers K' := by
    unfold sortedPointers
    rw [← bySource_eq_byAddr]
    exact mergeSort_eq_of_perm bySource_preorder (bySource_anti (ptrKeys_nodup wf)) h.pointers
  have hS : sortedStrings K = sortedStrings K' := by
    unfold sortedStrings
    rw [← bySource_eq_byAddr]
    exact mergeSort_eq_of_perm bySource_preorder (bySource_anti (strKeys_nodup wf)) h.strings
  have hE : labelEntries e K = labelEntries e K' := labelEntries_congr e wf.labelKeys ndL' h.labels
  have hstored : stored e K = stored e K' := by unfold stored; rw [hS, hE]
  have hgroups : stringGroups K = stringGroups K' := by unfold stringGroups; rw [hS]
  have hpt : ptrTable K = ptrTable K' := by unfold ptrTable; rw [hP, hgroups]
  have hts : canonTextStart e K = canonTextStart e K' := by
    unfold canonTextStart; rw [hpt, hE, h.size]
  have hlt : labelTable enc e K = labelTable enc e K' := by unfold labelTable; rw [hE, hstored]
  have htx : textSection enc e K = textSection enc e K' := by unfold textSection; rw [hstored]
  have hdata : canonData enc e K = canonData enc e K' := by
    -- the two data blocks agree outside the annotated cells, and every annotated cell is overwritten
    unfold canonData
    rw [← hP, ← hS, ← hts, ← hstored]
    apply patchWords_agree e _ K.data K'.data K.covered h.size (patchCells_inside wf _) h.bytes
    intro i ⟨x, hx, hr⟩
    obtain ⟨w, hw, rfl⟩ := List.mem_map.mp ((patchCells_perm K
      (fun p => canonTextStart e K + offsetIn enc (stored e K) p.2)).mem_iff.mpr hx)
    exact ⟨w, hw, hr⟩
  unfold canonical
  rw [hts, htx, h.size, hpt, hE, hdata, hlt]

section round
variable {c : Codec} {D : Str → Prop} {e : Endian} {f : Bytes} {K : Content}

theorem parsed_contentEq (ctx : Ctx c D e f K) {b : BinArchive} (hp : Parsed e f K b) :
    ContentEq K (contentOf b) where
  size := (Base.length ctx ⟨hp.data, hp.endian⟩).symm
  bytes := by
    intro i hc
    show K.data[i]? = b.data[i]?
    rw [hp.data]
    by_cases hi : i < K.data.length
    · rw [getElem?_slice, if_pos hi]
      exact (ctx.conf.dataEq i hi hc).symm
    · rw [List.getElem?_eq_none (Nat.le_of_not_lt hi),
        List.getElem?_eq_none (by rw [length_slice _ _ _ ctx.data_fits]; exact Nat.le_of_not_lt hi)]
  strings := hp.text.symm
  pointers := hp.pointers.symm
  labels := by intro x; exact (hp.labels x).symm

theorem enc_of_faithful (hf : c.Faithful D) {s : Str} (hs : D s) : ∃ b, c.enc s = some b := by
  obtain ⟨b, hb, _⟩ := hf s hs; exact ⟨b, hb⟩

theorem parsed_serDomain (ctx : Ctx c D e f K) (small : f.length < 2 ^ 32) {b : BinArchive}
    (hp : Parsed e f K b) : SerDomain c b := by
  have hl : b.data.length = K.data.length := Base.length ctx ⟨hp.data, hp.endian⟩
  have hpool : (cstrPool c b).length = 0 := by rw [cstrPool_nil c b hp.cstrings]; rfl
  have hfit := ctx.data_fits
  exact {
    ptrIn := fun p hpm => hl ▸ ctx.wf.inside _
      (List.mem_append_left _ (List.mem_map_of_mem (hp.pointers.mem_iff.mp hpm)))
    textIn := fun p hpm => hl ▸ ctx.wf.inside _
      (List.mem_append_right _ (List.mem_map_of_mem (hp.text.mem_iff.mp hpm)))
    cstrIn := by intro p hpm; rw [hp.cstrings] at hpm; cases hpm
    encText := fun p hpm => enc_of_faithful ctx.faithful (ctx.domS p (hp.text.mem_iff.mp hpm))
    encLabels := by
      intro p hpm n hn
      have h1 : n ∈ (UMap.get b.labels p.1).getD [] := by
        rw [(UMap.mem_iff_get hp.labelKeys p).mp hpm]; exact hn
      rw [hp.labels p.1] at h1
      obtain ⟨q, hq, _, hn'⟩ := labelsAt_mem h1
      exact enc_of_faithful ctx.faithful (ctx.domL q hq n hn')
    encCStr := by intro p hpm; rw [hp.cstrings] at hpm; cases hpm
    small := by omega }

/-- **Parsing any conforming image of `K` and serializing the result gives the canonical image of
`K`.** -/
theorem reserialize_conforming (ctx : Ctx c D e f K) (small : f.length < 2 ^ 32) :
    ∃ b, parse c e f = .ok b ∧ serialize c b = .ok (canonical c.enc e K) := by
  obtain ⟨b, hb, hp⟩ := parse_conforming ctx
  refine ⟨b, hb, ?_⟩
  rw [serialize_eq_canonical_plus c b (parsed_serDomain ctx small hp),
    contentPlus_of_no_cstrings c b hp.cstrings, hp.endian,
    ← canonical_congr c.enc e ctx.wf hp.labelKeys (parsed_contentEq ctx hp)]

end round

theorem cstrPointers_keys (c : Codec) (a : BinArchive) :
    (cstrPointers c a).map (·.1) = (cstrSorted c a).flatMap (·.2) := by
  simp [cstrPointers, List.map_flatMap, Function.comp_def]

theorem contentPlus_cells_perm (c : Codec) (a : BinArchive) :
    (contentPlus c a).cells.Perm (archCells a) := by
  unfold Content.cells archCells contentPlus
  simp only [List.map_append]
  apply List.Perm.append_right
  apply List.Perm.append_left
  rw [cstrPointers_keys]
  exact (List.mergeSort_perm a.cstrings (cstrLe c)).flatMap_right _

theorem cstrPointer_target_lt (c : Codec) (a : BinArchive) {p : Nat × Nat} (hp : p ∈ cstrPointers c a) :
    ∃ q ∈ a.cstrings, p.1 ∈ q.2 ∧ p.2 = a.data.length + offsetIn c.enc (cstrKeys c a) q.1 ∧
      offsetIn c.enc (cstrKeys c a) q.1 + (entry c.enc q.1).length ≤ (cstrPool c a).length := by
  unfold cstrPointers at hp
  obtain ⟨q, hq, hp⟩ := List.mem_flatMap.mp hp
  obtain ⟨x, hx, rfl⟩ := List.mem_map.mp hp
  refine ⟨q, List.mem_mergeSort.mp hq, hx, rfl, ?_⟩
  have hk : q.1 ∈ cstrKeys c a := (mem_dedup _ _).mpr (List.mem_map_of_mem hq)
  have := offsetIn_entry_le c.enc (cstrKeys c a) q.1 hk
  have h2 := padTo4_length_ge ((cstrKeys c a).flatMap (entry c.enc))
  unfold cstrPool; omega

theorem contentPlus_wf (c : Codec) (a : BinArchive) (wf : ArchWF a) : (contentPlus c a).WF := by
  have hd := contentPlus_data_length c a
  have hle : a.data.length ≤ (contentPlus c a).data.length := hd ▸ Nat.le_add_right _ _
  exact {
    inside := fun x hx => Nat.le_trans (wf.inside x ((contentPlus_cells_perm c a).mem_iff.mp hx)) hle
    disjoint :=
      ((contentPlus_cells_perm c a).pairwise_iff (by intro x y h; exact h.symm)).mpr wf.disjoint
    targets := by
      intro p hp
      rcases List.mem_append.mp hp with hp | hp
      · exact Nat.le_trans (wf.targets p hp) hle
      · obtain ⟨q, _, _, h2, h3⟩ := cstrPointer_target_lt c a hp
        omega
    labelKeys := wf.labelKeys
    labelAddrs := fun p hp => Nat.le_trans (wf.labelAddrs p hp) hle }

theorem serDomain_of (c : Codec) (D : Str → Prop) (a : BinArchive) (wf : ArchWF a)
    (hf : c.Faithful D) (dom : InDomain D a)
    (small : a.data.length + (cstrPool c a).length < 2 ^ 32) : SerDomain c a where
  ptrIn := fun _ hp => wf.inside _
    (List.mem_append_left _ (List.mem_append_left _ (List.mem_map_of_mem hp)))
  textIn := fun _ hp => wf.inside _ (List.mem_append_right _ (List.mem_map_of_mem hp))
  cstrIn := fun p hp _ hx => wf.inside _
    (List.mem_append_left _ (List.mem_append_right _ (List.mem_flatMap.mpr ⟨p, hp, hx⟩)))
  encText := fun p hp => enc_of_faithful hf (dom.text p hp)
  encLabels := fun p hp n hn => enc_of_faithful hf (dom.labels p hp n hn)
  encCStr := fun p hp => enc_of_faithful hf (dom.cstrings p hp)
  small := small

theorem archCells_nodup {a : BinArchive} (wf : ArchWF a) : (archCells a).Nodup :=
  nodup_of_disjoint wf.disjoint

theorem keysOK_of (c : Codec) (D : Str → Prop) (a : BinArchive) (wf : ArchWF a)
    (ndC : (a.cstrings.map (·.1)).Nodup) (hf : c.Faithful D) (dom : InDomain D a) : KeysOK c a where
  text := (List.nodup_append.mp (archCells_nodup wf)).2.1
  labels := wf.labelKeys
  sources := (List.nodup_append.mp (archCells_nodup wf)).1
  cstrKeys := by
    intro x hx y hy hk
    obtain ⟨bx, hbx, _, hdx⟩ := hf x.1 (dom.cstrings x hx)
    obtain ⟨by', hby, _, hdy⟩ := hf y.1 (dom.cstrings y hy)
    unfold cstrKey at hk
    rw [hbx, hby] at hk
    simp only [Option.getD_some] at hk
    have : x.1 = y.1 := by rw [← hdx, ← hdy, hk]
    exact UMap.eq_of_key_eq ndC hx hy this

theorem data_le_imageSize (c : Codec) (a : BinArchive) (wf : ArchWF a) :
    a.data.length + (cstrPool c a).length ≤ imageSize c a := by
  unfold imageSize
  rw [canonical_length c.enc a.endian (contentPlus c a) (contentPlus_wf c a wf)]
  unfold Content.textStart
  have := contentPlus_data_length c a
  omega

/-- **The serialized image conforms to the format** (content: `contentPlus`, i.e. the pool is data
and every c-string use a pointer into it). -/
theorem serialize_conforms (c : Codec) (D : Str → Prop) (a : BinArchive) (wf : ArchWF a)
    (hf : c.Faithful D) (dom : InDomain D a) (small : imageSize c a < 2 ^ 32) :
    ∃ f, serialize c a = .ok f ∧ f.length = imageSize c a ∧
      Conforms c.enc a.endian f (contentPlus c a) := by
  have sd := serDomain_of c D a wf hf dom (Nat.lt_of_le_of_lt (data_le_imageSize c a wf) small)
  exact ⟨_, serialize_eq_canonical_plus c a sd, rfl, canonical_conforms c.enc a.endian
    (contentPlus c a) (contentPlus_wf c a wf) sd.encText sd.encLabels small⟩

theorem ctx_of_archive (c : Codec) (D : Str → Prop) (a : BinArchive) (wf : ArchWF a)
    (hf : c.Faithful D) (dom : InDomain D a) {f : Bytes}
    (hc : Conforms c.enc a.endian f (contentPlus c a)) : Ctx c D a.endian f (contentPlus c a) where
  conf := hc
  wf := contentPlus_wf c a wf
  faithful := hf
  domS := dom.text
  domL := dom.labels

/-- **serialize → parse**: the image re-parses, to an archive with the content `contentPlus`. -/
theorem parse_serialize (c : Codec) (D : Str → Prop) (a : BinArchive) (wf : ArchWF a)
    (hf : c.Faithful D) (dom : InDomain D a) (small : imageSize c a < 2 ^ 32) :
    ∃ f b, serialize c a = .ok f ∧ parse c a.endian f = .ok b ∧
      Conforms c.enc a.endian f (contentPlus c a) ∧ Parsed a.endian f (contentPlus c a) b := by
  obtain ⟨f, hs, _, hc⟩ := serialize_conforms c D a wf hf dom small
  obtain ⟨b, hb, hp⟩ := parse_conforming (ctx_of_archive c D a wf hf dom hc)
  exact ⟨f, b, hs, hb, hc, hp⟩

end Mila.Ser
