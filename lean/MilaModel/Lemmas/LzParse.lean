/-
Soundness of the specification's executable parser (the oracle of the `lz` stream) with respect
to the declarative grammar: whatever `parse` accepts is a conforming stream of the tokens it
returns.  On a reference the parser reads what `decodeRef` reads (`parseTok_ref`), so the byte
arithmetic is that of `Lemmas/LzDecode`.
-/
import MilaModel.Spec.LzStream
import MilaModel.Lemmas.LzBasic
import MilaModel.Lemmas.LzDecode

namespace Mila.Spec.Lz

theorem parseTok_sound (ext isRef : Bool) (have_ : Nat) (s s' : Bytes) (t : Tok)
    (h : parseTok ext isRef have_ s = .ok (t, s')) :
    t.isRef = isRef ∧ s = tokBytes ext t ++ s' ∧ ValidFrom ext have_ [t] := by
  cases isRef with
  | false =>
    cases s with
    | nil => simp [parseTok] at h
    | cons b s =>
      simp [parseTok] at h
      obtain ⟨rfl, rfl⟩ := h
      simp [Tok.isRef, tokBytes, ValidFrom]
  | true =>
    rw [Mila.Lz.parseTok_ref] at h
    split at h
    · cases h
    · rename_i len d r hd
      obtain ⟨hs, hl, hd4⟩ := Mila.Lz.decodeRef_sound ext s r len d hd
      split at h
      · rename_i hle
        obtain ⟨rfl, rfl⟩ := h
        exact ⟨rfl, hs, hl, by omega, by omega, hle, trivial⟩
      · cases h

theorem tok_size_pos {ext : Bool} {h : Nat} {t : Tok} (hv : ValidFrom ext h [t]) : 1 ≤ t.size :=
  tsize_pos_of_valid hv

theorem parseGroup_sound (ext : Bool) (n f k have_ : Nat) (s : Bytes) (acc : List Tok) (have' : Nat)
    (s' : Bytes) (acc' : List Tok) (h : parseGroup ext n f k have_ s acc = .ok (have', s', acc')) :
      ∃ g : List Tok, acc' = g.reverse ++ acc ∧ s = g.flatMap (tokBytes ext) ++ s' ∧
        have' = have_ + tsize g ∧ ValidFrom ext have_ g ∧ g.length ≤ k ∧
        FlagOkAt k f g ∧
        (g.length < k → n ≤ have') ∧ (have_ < n → 0 < k → g ≠ []) := by
  fun_induction parseGroup ext n f k have_ s acc with
  | case1 =>
    cases h
    exact ⟨[], by simp, by simp, by simp, trivial, by simp, flagOkAt_nil 0 f, fun h => by simp at h,
      fun _ h => by omega⟩
  | case2 _ _ _ _ hge =>
    cases h
    exact ⟨[], by simp, by simp, by simp, trivial, by simp, flagOkAt_nil _ f, fun _ => hge,
      fun h _ => by omega⟩
  | case3 => cases h
  | case4 k have_ s acc _ t s1 ht ih =>
    obtain ⟨hr, hs, hv⟩ := parseTok_sound ext _ have_ s s1 t ht
    obtain ⟨g, h1, h2, h3, h4, h5, h6, h7, _⟩ := ih h
    refine ⟨t :: g, by simp [h1], by rw [hs, h2]; simp, by simp [h3]; omega, validFrom_cons.2 ⟨hv, h4⟩,
      by simp; omega, flagOkAt_cons.2 ⟨hr.symm, h6⟩, ?_, fun _ _ => by simp⟩
    · intro hlt
      simp at hlt
      exact h7 (by omega)

theorem parseGroups_sound (ext : Bool) (n fuel have_ : Nat) (s : Bytes) (acc toks : List Tok)
    (h : parseGroups ext n fuel have_ s acc = .ok toks) :
      ∃ rest, toks = acc.reverse ++ rest ∧ Groups ext rest s ∧ ValidFrom ext have_ rest ∧
        have_ + tsize rest = n := by
  fun_induction parseGroups ext n fuel have_ s acc with
  | case3 _ s _ hs =>
    cases h
    obtain rfl : s = [] := by simpa using hs
    exact ⟨[], by simp, Groups.nil, trivial, rfl⟩
  | case7 fuel have_ acc hgt hne f s1 have' s' acc' hg ih =>
    obtain ⟨g, g1, g2, g3, g4, g5, g6, g7, g8⟩ := parseGroup_sound ext n f.toNat 8 have_ s1 acc _ _ _ hg
    obtain ⟨rest', r1, r2, r3, r4⟩ := ih h
    have hgne : g ≠ [] := g8 (by omega) (by omega)
    refine ⟨g ++ rest', by rw [r1, g1]; simp, ?_, ?_, by rw [g3] at r4; simp; omega⟩
    · rw [g2]
      apply Groups.group f g rest' s' hgne g5 ?_ (fun i hi => g6 i hi) r2
      intro hr
      by_cases h8 : g.length = 8
      · exact h8
      · exfalso
        have hge := g7 (by omega)
        -- the recursive call saw have' ≥ n: it can only have returned with no more tokens
        cases rest' with
        | nil => exact hr rfl
        | cons t ts =>
          have hp := tsize_pos_of_valid r3
          simp at r4
          omega
    · rw [validFrom_append]; exact ⟨g4, by rw [← g3]; exact r3⟩
  | _ => cases h

private theorem map_ok {ε α β : Type} {x : Except ε α} {f : α → β} {y : β}
    (h : x.map f = .ok y) : ∃ a, x = .ok a ∧ f a = y := by
  cases x with
  | error e => cases h
  | ok a => exact ⟨a, rfl, by injection h⟩

theorem parse_sound (s : Bytes) (ext : Bool) (n : Nat) (toks : List Tok)
    (h : parse s = .ok (ext, n, toks)) : Conforms ext toks s ∧ (expand toks).size = n := by
  -- behind either form of the header
  have fin (ext' : Bool) (n' : Nat) (hdr body : Bytes) (fuel : Nat) (hh : hdr = header ext' n')
      (hb : n' < (if ext' then 2 ^ 32 else 2 ^ 24))
      (hp : (parseGroups ext' n' fuel 0 body []).map (fun toks => (ext', n', toks)) = .ok (ext, n, toks)) :
      Conforms ext toks (hdr ++ body) ∧ (expand toks).size = n := by
    obtain ⟨toks', hpg, he⟩ := map_ok hp
    obtain ⟨rfl, rfl, rfl⟩ : ext' = ext ∧ n' = n ∧ toks' = toks := by simpa using he
    obtain ⟨rest, r1, r2, r3, r4⟩ := parseGroups_sound ext' n' fuel 0 body [] _ hpg
    obtain rfl : toks' = rest := by simpa using r1
    have hsz : (expand toks').size = n' := by simpa using r4
    exact ⟨⟨r3, ⟨body, by rw [hsz, hh], r2⟩, by rw [hsz]; exact hb⟩, hsz⟩
  revert h
  fun_cases parse s with
  | case4 t l0 l1 l2 ht ext' n' hext a b c d body m hcanon =>
    -- extended length word: the 24-bit field is zero
    obtain rfl : t = 0x11 := eq_of_beq hext.2
    have h3 : leBytes 3 n' = [l0, l1, l2] := leBytes_ofLe [l0, l1, l2]
    rw [hext.1] at h3
    obtain ⟨rfl, rfl, rfl⟩ : 0 = l0 ∧ 0 = l1 ∧ 0 = l2 := by simpa [leBytes] using h3
    have h4 : leBytes 4 m = [a, b, c, d] := leBytes_ofLe [a, b, c, d]
    have hcan : m = 0 ∨ 2 ^ 24 ≤ m := by omega
    exact fin _ m [0x11, 0, 0, 0, a, b, c, d] body _ (by simp [header, hext.2, hcan, h4])
      (by simpa [hext.2, m] using ofLe_lt [a, b, c, d])
  | case6 t l0 l1 l2 body ht ext' n' hext =>
    have hn24 : n' < 2 ^ 24 := by simpa using ofLe_lt [l0, l1, l2]
    have h3 : leBytes 3 n' = [l0, l1, l2] := leBytes_ofLe [l0, l1, l2]
    refine fin ext' n' [t, l0, l1, l2] body _ ?_ (by split <;> omega)
    by_cases h11 : t = 0x11
    · subst h11
      have : ¬ (n' = 0 ∨ 2 ^ 24 ≤ n') := fun hc => hext ⟨by omega, rfl⟩
      simp [ext', header, this, h3]
    · obtain rfl : t = 0x10 := Classical.byContradiction fun h10 => ht ⟨h10, h11⟩
      simp [ext', header, h3]
  | _ => rintro ⟨⟩
end Mila.Spec.Lz
