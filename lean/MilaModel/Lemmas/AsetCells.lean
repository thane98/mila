/-
Shared by the two layered formats (C17 animation sets, C18 asset binaries): a declarative cell
layout of a bin archive.  `cellsAt a p cs` says that from address `p` on the archive shows the
4-byte cells `cs` — a raw cell with given bytes (and no string on it) or a string cell with a given
(optional) string.  Readers are proved against the layout (any archive that has it), writers
establish it, and it transfers along `SameContent`, which is what the round trip of C01 preserves.
-/
import MilaModel.Model.BinStreams
import MilaModel.Lemmas.UMap
import MilaModel.Lemmas.Bytes
import MilaModel.Lemmas.Slice
import MilaModel.Lemmas.Validate

namespace Mila

namespace UMap
variable {κ ν : Type} [DecidableEq κ]

theorem get_nil (k : κ) : get ([] : UMap κ ν) k = none := rfl

theorem any_of_get_ne_none {m : UMap κ ν} {k : κ} (h : get m k ≠ none) :
    m.any (fun p => p.1 = k) = true := by
  cases hh : m.any (fun p => p.1 = k) with
  | true => rfl
  | false => exact absurd (get_eq_none_of_not_any hh) h

end UMap

namespace Layered
open BinArchive

inductive Cell
  | raw (v : Bytes)
  | str (s : Option Str)
  deriving Repr

/-- The archive shows cell `c` at address `p`. -/
def cellAt (a : BinArchive) (p : Nat) : Cell → Prop
  | .raw v => p + 4 ≤ a.size ∧ slice a.data p 4 = v ∧ a.text.get p = none
  | .str s => p + 4 ≤ a.size ∧ a.text.get p = s

def cellsAt (a : BinArchive) : Nat → List Cell → Prop
  | _, [] => True
  | p, c :: cs => cellAt a p c ∧ cellsAt a (p + 4) cs

theorem cellsAt_append (a : BinArchive) (p : Nat) (xs ys : List Cell) :
    cellsAt a p (xs ++ ys) ↔ cellsAt a p xs ∧ cellsAt a (p + 4 * xs.length) ys := by
  induction xs generalizing p with
  | nil => simp [cellsAt]
  | cons x xs ih =>
    simp only [List.cons_append, cellsAt, ih, List.length_cons]
    have : p + 4 + 4 * xs.length = p + 4 * (xs.length + 1) := by omega
    rw [this, and_assoc]

/-- Layouts are preserved by any change that keeps every cell below `lim`. -/
theorem cellsAt_mono {a a' : BinArchive} {lim : Nat}
    (h : ∀ p c, p + 4 ≤ lim → cellAt a p c → cellAt a' p c) :
    ∀ (cs : List Cell) (p : Nat), p + 4 * cs.length ≤ lim → cellsAt a p cs → cellsAt a' p cs := by
  intro cs
  induction cs with
  | nil => intro p _ _; trivial
  | cons c cs ih =>
    intro p hl hc
    simp only [List.length_cons] at hl
    exact ⟨h p c (by omega) hc.1, ih (p + 4) (by omega) hc.2⟩

theorem readU32_raw {a : BinArchive} {p : Nat} {v : Bytes} (he : a.endian = .little)
    (h : cellAt a p (.raw v)) : Reader.readU32 a ⟨p⟩ = .ok (ofLe v, ⟨p + 4⟩) := by
  obtain ⟨hs, hv, _⟩ := h
  unfold Reader.readU32 Reader.step BinArchive.readU32 readUInt
  simp [validateCell_ok (by decide : 0 < 4) hs, he, Endian.dec, hv]

theorem readString_str {a : BinArchive} {p : Nat} {s : Option Str}
    (h : cellAt a p (.str s)) : Reader.readString a ⟨p⟩ = .ok (s, ⟨p + 4⟩) := by
  obtain ⟨hs, hv⟩ := h
  unfold Reader.readString Reader.step BinArchive.readString
  simp [validateCell_ok (by decide : 0 < 4) hs, hv]

theorem readString_eof {a : BinArchive} {p : Nat} (h : a.size < p + 4) :
    Reader.readString a ⟨p⟩ = .err .OutOfBounds := by
  unfold Reader.readString Reader.step BinArchive.readString
  simp [validateCell_err h]

/-- A byte-range read inside the data returns the slice (`a.size < 2^64`: sizes are `usize`, and
`read_bytes` checks the end of the range for overflow). -/
theorem readBytes_slice (a : BinArchive) (hsmall : a.size < 2 ^ 64) (n p : Nat) (h : p + n ≤ a.size) :
    Reader.readBytes a ⟨p⟩ n = .ok (slice a.data p n, ⟨p + n⟩) := by
  unfold Reader.readBytes
  by_cases h0 : n = 0
  · subst h0; simp [slice]
  · rw [if_neg h0]
    unfold BinArchive.readBytes
    rw [validateRange_checked, if_pos (show (p < a.size ∧ p + n ≤ a.size) ∧ p + n < 2 ^ 64 by omega)]

theorem readU8_at {a : BinArchive} {p : Nat} (h : p < a.size) :
    Reader.readU8 a ⟨p⟩ = .ok ((a.data.getD p 0).toNat, ⟨p + 1⟩) := by
  unfold Reader.readU8 Reader.step BinArchive.readU8
  rw [validateAddress_lt h]

/-! ### what the bin-archive round trip (C01) preserves

`SameContent a b`: `b` has the content of `a` — same size and endianness, the same string,
pointer and label on every cell, and the same bytes on every 4-byte range that no string or
pointer cell of `a` overlaps (the words stored *in* string and pointer cells are file offsets and
do change).  This is the conclusion of property C01 for `b = parse (serialize a)`; the file-level
theorems of C17/C18 take it as a hypothesis. -/
structure SameContent (a b : BinArchive) : Prop where
  size : b.size = a.size
  endian : b.endian = a.endian
  text : ∀ x, b.text.get x = a.text.get x
  pointers : ∀ x, b.pointers.get x = a.pointers.get x
  labels : ∀ x, b.labels.get x = a.labels.get x
  raw : ∀ p, p + 4 ≤ a.size →
    (∀ q, q < p + 4 → p < q + 4 → a.text.get q = none ∧ a.pointers.get q = none) →
    slice b.data p 4 = slice a.data p 4

/-- Property C01 instantiated at one archive: what `serialize` writes, `parse` reads back with the
same content.  Proved (for every well-formed archive over a faithful codec) by the C01 property;
here it is a named hypothesis of the file-level theorems. -/
def BinRoundTrip (c : Codec) (a : BinArchive) : Prop :=
  ∀ bytes, a.serialize c = .ok bytes →
    ∃ b, BinArchive.parse c a.endian bytes = .ok b ∧ SameContent a b

theorem SameContent.refl (a : BinArchive) : SameContent a a :=
  ⟨rfl, rfl, fun _ => rfl, fun _ => rfl, fun _ => rfl, fun _ _ _ => rfl⟩

/-- Archives written by the two formats: strings sit on 4-aligned cells, no pointers. -/
structure Plain (a : BinArchive) : Prop where
  aligned : ∀ x, a.text.get x ≠ none → x % 4 = 0
  noptr : a.pointers = []

theorem cellsAt_transfer {a b : BinArchive} (hp : Plain a) (h : SameContent a b) :
    ∀ (cs : List Cell) (p : Nat), p % 4 = 0 → cellsAt a p cs → cellsAt b p cs := by
  intro cs
  induction cs with
  | nil => intro p _ _; trivial
  | cons c cs ih =>
    intro p hal hc
    refine ⟨?_, ih (p + 4) (by omega) hc.2⟩
    cases c with
    | str s =>
      obtain ⟨h1, h2⟩ := hc.1
      exact ⟨by rw [h.size]; exact h1, by rw [h.text]; exact h2⟩
    | raw v =>
      obtain ⟨h1, h2, h3⟩ := hc.1
      refine ⟨by rw [h.size]; exact h1, ?_, by rw [h.text]; exact h3⟩
      rw [h.raw p h1, h2]
      intro q hq1 hq2
      refine ⟨?_, by rw [hp.noptr]; rfl⟩
      by_cases hq : q = p
      · rw [hq]; exact h3
      · cases hh : a.text.get q with
        | none => rfl
        | some s =>
          have := hp.aligned q (by rw [hh]; simp)
          omega

end Layered
end Mila
