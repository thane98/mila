/-
C19: the ETC1 decoder (`Etc1.decode`) puts texel `(X % 4, Y % 4)` of block number
`etcBlock w X Y` at pixel `(X, Y)` — for every width and height that are powers of two from 8 up
(below 2^16), in both arithmetic profiles.  Six nested loops (tile_y, tile_x, block_y, block_x over
the state `(pos, bmp)`, then pixel_y, pixel_x over `bmp`), each level filling the union of what the
level below fills (`forRange_fills`).
-/
import MilaModel.Lemmas.PixelLoops
import MilaModel.Spec.Morton

namespace Mila.Etc1
open Pixel Spec.Morton

/-- Bytes per 4×4 block: 8 colour bytes, preceded by 8 alpha bytes in ETC1A4. -/
def blockBytes (alpha : Bool) : Nat := if alpha then 16 else 8

/-- The byte the decoder must leave at channel `c` of pixel `(X, Y)`. -/
def expByte (data : Buf) (w : Nat) (alpha : Bool) (X Y c : Nat) : UInt8 :=
  let bi := Spec.Morton.etcBlock w X Y
  let alphas := if alpha then data.leN (bi * blockBytes alpha) 8 else 0xFFFFFFFFFFFFFFFF
  let pixels := data.leN (bi * blockBytes alpha + (if alpha then 8 else 0)) 8
  Pixel.chanByte (texel alphas pixels (X % 4) (Y % 4)) c

theorem pow2_split {n : Nat} (h : PowerOfTwoFrom8 n) : ∃ m, n = m * 8 ∧ 2 ^ m.log2 = m := by
  obtain ⟨k, hk, rfl⟩ := h
  obtain ⟨j, rfl⟩ : ∃ j, k = j + 3 := ⟨k - 3, by omega⟩
  exact ⟨2 ^ j, Nat.pow_add 2 j 3, by rw [Nat.log2_two_pow]⟩

theorem pow2_mod8 {n : Nat} (h : PowerOfTwoFrom8 n) : n % 8 = 0 := by
  obtain ⟨m, rfl, _⟩ := pow2_split h
  omega

theorem tileCount_pow2 {n : Nat} (h : Spec.Morton.PowerOfTwoFrom8 n) : tileCount n = n / 8 := by
  obtain ⟨m, rfl, hm⟩ := pow2_split h
  unfold tileCount
  have h1 : (m * 8 + 7) / 8 = m := by omega
  have h2 : m * 8 / 8 = m := by omega
  rw [h1, h2, hm]

theorem block_coords {n a q p : Nat} (hq : q < 2) (hp : p < 4) (h : n = p + q * 4 + a * 8) :
    n / 8 = a ∧ n % 8 / 4 = q ∧ n % 4 = p := by
  omega

theorem coords_block {n X : Nat} (hn : n % 8 = 0) (hX : X < n) :
    X / 8 < n / 8 ∧ X % 8 / 4 < 2 ∧ X % 4 < 4 ∧ X = X % 4 + X % 8 / 4 * 4 + X / 8 * 8 := by
  omega

/-- The two pixel loops of block `(ty, tx, qy, qx)`: step `(py, px)` fills pixel `(px, py)` of the
block. -/
theorem blockPixels_fills {v : Nat × Nat × Nat → UInt8} {w h ty tx qy qx alphas pixels : Nat}
    (htx : tx * 8 + 8 ≤ w) (hty : ty * 8 + 8 ≤ h) (hqy : qy < 2) (hqx : qx < 2)
    (hv : ∀ i, i.1 / 8 = tx → i.1 % 8 / 4 = qx → i.2.1 / 8 = ty → i.2.1 % 8 / 4 = qy →
      v i = chanByte (texel alphas pixels (i.1 % 4) (i.2.1 % 4)) i.2.2)
    (bmp : Buf) (hsz : bmp.size = 4 * (h * w)) :
    ∃ bmp', blockPixels w h ty tx qy qx alphas pixels bmp = .ok bmp' ∧ bmp'.size = 4 * (h * w) ∧
      Fills (pxByte w) v (InRow w) (fun i => ∃ py, py < 4 ∧ ∃ px, px < 4 ∧
        i.1 = px + qx * 4 + tx * 8 ∧ i.2.1 = py + qy * 4 + ty * 8) bmp bmp' :=
  forRange_fills (pxByte w) v (InRow w) _ (fun _ b => b.size = 4 * (h * w)) _ 4
    (fun py b hpy hb => forRange_fills (pxByte w) v (InRow w) _ (fun _ b => b.size = 4 * (h * w)) _ 4
      (fun px b hpx hb => by
        have hX : px + qx * 4 + tx * 8 < w := by omega
        have hY : py + qy * 4 + ty * 8 < h := by omega
        have hput : ((py + qy * 4 + ty * 8) * w + (px + qx * 4 + tx * 8)) * 4 + 4 ≤ b.size := by
          have := idx_lt hX hY
          omega
        refine ⟨_, ?_, (set4_size _ _ _).trans hb,
          set4_fills v _ w _ _ (texel alphas pixels px py) b hX hput (fun _ => Iff.rfl) ?_⟩
        · rw [if_neg (by omega), put4, if_pos (by omega), set4]
        · rintro i ⟨h1, h2⟩
          obtain ⟨x1, x2, x3⟩ := block_coords hqx hpx h1
          obtain ⟨y1, y2, y3⟩ := block_coords hqy hpy h2
          rw [hv i x1 x2 y1 y2, x3, y3]) b hb) bmp hsz

theorem blockStep_fills {data : Buf} {w h : Nat} {alpha : Bool} {ty tx qy qx : Nat}
    (hw : w % 8 = 0) (hh : h % 8 = 0)
    (hd : data.size = (h / 8 * (w / 8) * 4) * blockBytes alpha)
    (hty : ty < h / 8) (htx : tx < w / 8) (hqy : qy < 2) (hqx : qx < 2) (s : Nat × Buf)
    (hs : At w h (blockBytes alpha) ((ty * (w / 8) + tx) * 4 + (qy * 2 + qx)) s) :
    ∃ s', blockStep data w h alpha ty tx qy qx s = .ok s' ∧
      At w h (blockBytes alpha) ((ty * (w / 8) + tx) * 4 + (qy * 2 + (qx + 1))) s' ∧
      Fills (fun s => pxByte w s.2) (fun i => expByte data w alpha i.1 i.2.1 i.2.2) (InRow w)
        (fun i => ∃ py, py < 4 ∧ ∃ px, px < 4 ∧
          i.1 = px + qx * 4 + tx * 8 ∧ i.2.1 = py + qy * 4 + ty * 8) s s' := by
  have hq : qy * 2 + qx < 4 := by omega
  have hread : s.1 + (if alpha = true then 16 else 8) ≤ data.size :=
    hd ▸ hs.room (idx_lt hq (idx_lt htx hty))
  have htx8 : tx * 8 + 8 ≤ w := by omega
  have hty8 : ty * 8 + 8 ≤ h := by omega
  obtain ⟨bmp', hbp, hsz', hF⟩ := blockPixels_fills
    (v := fun i => expByte data w alpha i.1 i.2.1 i.2.2)
    (alphas := if alpha then data.leN s.1 8 else 0xFFFFFFFFFFFFFFFF)
    (pixels := data.leN (if alpha then s.1 + 8 else s.1) 8) htx8 hty8 hqy hqx
    (fun i i1 i2 i3 i4 => by
      -- the block of these pixels is the one under the cursor
      simp only [expByte, etcBlock, i1, i2, i3, i4, Nat.add_assoc, ← hs.1]
      cases alpha <;> simp) s.2 hs.2
  refine ⟨(s.1 + blockBytes alpha, bmp'), ?_, hs.next (hsz'.trans hs.2.symm), hF⟩
  simp only [blockStep, if_pos hread, hbp]
  rfl

theorem walk_ok {data : Buf} {w h : Nat} {alpha : Bool} (hw : w % 8 = 0) (hh : h % 8 = 0)
    (hd : data.size = (h / 8 * (w / 8) * 4) * blockBytes alpha)
    (bmp : Buf) (hb : bmp.size = 4 * (h * w)) :
    ∃ s', forRange (h / 8) (fun tile_y st =>
        forRange (w / 8) (fun tile_x st =>
          forRange 2 (fun block_y st =>
            forRange 2 (fun block_x st =>
              blockStep data w h alpha tile_y tile_x block_y block_x st) st) st) st) (0, bmp) = .ok s' ∧
      s'.2.size = 4 * (h * w) ∧
      ∀ X Y c, X < w → Y < h → c < 4 → s'.2.getD ((Y * w + X) * 4 + c) 0 = expByte data w alpha X Y c := by
  have loop := @forRange_fills _ _ _ (fun s : Nat × Buf => pxByte w s.2)
    (fun i => expByte data w alpha i.1 i.2.1 i.2.2) (InRow w)
  obtain ⟨s', hs', hP, hF⟩ := loop _ (fun ty s => At w h (blockBytes alpha) (ty * (w / 8) * 4) s) _ (h / 8)
    (fun ty s hty hP => by
      obtain ⟨s', hs', hP', hF⟩ := loop _
        (fun tx s => At w h (blockBytes alpha) ((ty * (w / 8) + tx) * 4) s) _ (w / 8)
        (fun tx s htx hP => by
          obtain ⟨s', hs', hP', hF⟩ := loop _
            (fun qy s => At w h (blockBytes alpha) ((ty * (w / 8) + tx) * 4 + qy * 2) s) _ 2
            (fun qy s hqy hP => by
              obtain ⟨s', hs', hP', hF⟩ := loop _
                (fun qx s => At w h (blockBytes alpha) ((ty * (w / 8) + tx) * 4 + (qy * 2 + qx)) s) _ 2
                (fun qx s hqx hP => blockStep_fills hw hh hd hty htx hqy hqx s hP) s hP
              have e : (ty * (w / 8) + tx) * 4 + (qy * 2 + 2) = (ty * (w / 8) + tx) * 4 + (qy + 1) * 2 := by
                omega
              exact ⟨s', hs', e ▸ hP', hF⟩) s hP
          have e : (ty * (w / 8) + tx) * 4 + 2 * 2 = (ty * (w / 8) + (tx + 1)) * 4 := by omega
          exact ⟨s', hs', e ▸ hP', hF⟩) s hP
      have e : (ty * (w / 8) + w / 8) * 4 = (ty + 1) * (w / 8) * 4 := by rw [Nat.succ_mul]
      exact ⟨s', hs', e ▸ hP', hF⟩) (0, bmp) ⟨by simp, hb⟩
  refine ⟨s', hs', hP.2, fun X Y c hX hY hc => ?_⟩
  obtain ⟨x1, x2, x3, x4⟩ := coords_block hw hX
  obtain ⟨y1, y2, y3, y4⟩ := coords_block hh hY
  exact (hF (X, Y, c) ⟨hX, hc⟩).1 ⟨_, y1, _, x1, _, y2, _, x2, _, y3, _, x3, x4, y4⟩

/-- C19, ETC1: on power-of-two sizes the decoder succeeds (both profiles) and pixel `(X, Y)` holds
texel `(X % 4, Y % 4)` of block `etcBlock w X Y`. -/
theorem decode_ok (p : Profile) (data : Buf) (w h : Nat) (alpha : Bool)
    (hw : Spec.Morton.PowerOfTwoFrom8 w) (hh : Spec.Morton.PowerOfTwoFrom8 h)
    (hwb : w < 2 ^ 16) (hhb : h < 2 ^ 16)
    (hd : data.size = (h / 8 * (w / 8) * 4) * blockBytes alpha) :
    ∃ bmp, decode p data w h alpha = .ok bmp ∧ bmp.size = 4 * (h * w) ∧
      ∀ X Y c, X < w → Y < h → c < 4 →
        bmp.getD ((Y * w + X) * 4 + c) 0 = expByte data w alpha X Y c := by
  have hwh : w * h < 2 ^ 16 * 2 ^ 16 := Nat.mul_lt_mul'' hwb hhb
  have hassoc : 4 * w * h = 4 * (h * w) := by rw [Nat.mul_assoc, Nat.mul_comm w h]
  have h1 : mulN 64 p 4 w = .ok (4 * w) := mulN_ok p (by omega)
  have h2 : mulN 64 p (4 * w) h = .ok (4 * w * h) := mulN_ok p (by rw [hassoc, Nat.mul_comm h w]; omega)
  have halloc : 4 * w * h < allocLimit := by rw [hassoc, Nat.mul_comm h w]; unfold allocLimit; omega
  obtain ⟨s', hs', hsz, hpix⟩ := walk_ok (alpha := alpha) (pow2_mod8 hw) (pow2_mod8 hh) hd
    (Buf.zeros (4 * w * h)) (by rw [Buf.zeros, Array.size_replicate, hassoc])
  refine ⟨s'.2, ?_, hsz, hpix⟩
  simp only [decode, bind, Res.bind, h1, h2, if_pos halloc, pure, tileCount_pow2 hw, tileCount_pow2 hh, hs']

end Mila.Etc1
