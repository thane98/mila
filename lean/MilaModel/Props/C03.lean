/-
C03 — Allocate / deallocate / truncate relocate every annotation consistently.

Model: `Model/BinArchive.lean` (`allocate`, `deallocate`, `truncate`, `allocateAtEnd`, the
`adjust_*` / `filter_*` helpers incl. the `HashMap → map → collect` shape), `Model/BinStreams.lean`
(`Writer.allocate`), op machine `Model/BinOps.lean`.  Spec: `Spec/Reloc.lean`.

The theorems are stated on the *entry lists* of the four maps (the multiset of entries, in
iteration order): the model's result is literally the specification's image of the entry list.
That is only true because keys stay distinct (`KeysNodup`): `UMap.collect` would silently merge
colliding keys, so each theorem also proves that the keys of the result are distinct again.
-/
import MilaModel.Lemmas.BinInv
import MilaModel.Lemmas.BinSys

namespace Mila.Props.C03
open Mila BinArchive Spec.Reloc UMap

/-- The content the statement talks about: data and the entry lists of the four maps. -/
def content (a : BinArchive) : Content := ⟨a.data, a.text, a.pointers, a.labels, a.cstrings⟩

theorem allocate_eq (a : BinArchive) (addr n : Nat) (ge : Bool) :
    a.allocate addr n ge =
      if addr ≤ a.size then
        if addr % 4 = 0 ∧ n % 4 = 0 then
          .ok { a with
            data := a.data.take addr ++ List.replicate n 0 ++ a.data.drop addr
            text := adjustText a.text addr n false
            labels := adjustLabels a.labels addr n false ge
            pointers := adjustPointers a.pointers addr n false ge
            cstrings := adjustCStrings a.cstrings addr n false }
        else .err .Unaligned
      else .err .OutOfBounds := Mila.allocate_eq a addr n ge

/-- `allocate_spec`: an in-range, aligned insert request is accepted and the result is the
specification's image: data spliced with `n` zero bytes, strings / pointer cells / pending
c-string uses shifted by `shiftAt`, labels and pointer targets by `shiftAfter … ge`; every entry
of every map is the image of exactly one entry before (nothing lost, nothing invented), and keys
are distinct again. -/
theorem allocate_spec (a : BinArchive) (addr n : Nat) (ge : Bool) (h : KeysNodup a)
    (hacc : allocAccepted a.size addr n) :
    ∃ a', a.allocate addr n ge = .ok a' ∧ content a' = allocated addr n ge (content a)
      ∧ a'.endian = a.endian ∧ KeysNodup a' := by
  have hok := (allocate_eq a addr n ge).trans ((if_pos hacc.1).trans (if_pos hacc.2))
  exact ⟨_, hok, (allocate_content h hok).2⟩

/-- A misaligned or out-of-range insert request is rejected (out-of-range is reported first). -/
theorem allocate_rejected (a : BinArchive) (addr n : Nat) (ge : Bool)
    (hrej : ¬ allocAccepted a.size addr n) :
    a.allocate addr n ge = .err (if addr ≤ a.size then .Unaligned else .OutOfBounds) := by
  rw [allocate_eq]
  unfold allocAccepted at hrej
  by_cases h1 : addr ≤ a.size
  · have : ¬ (addr % 4 = 0 ∧ n % 4 = 0) := fun h2 => hrej ⟨h1, h2⟩
    simp [h1, this]
  · simp [h1]

/-- Appending (`allocate_at_end`) is always accepted and moves nothing. -/
theorem allocate_at_end_spec (a : BinArchive) (n : Nat) :
    content (a.allocateAtEnd n) = appended n (content a) ∧ (a.allocateAtEnd n).endian = a.endian
      ∧ (KeysNodup a → KeysNodup (a.allocateAtEnd n)) :=
  ⟨rfl, rfl, fun h => h⟩

/-- The writer's `allocate` at the end of the archive is an append: accepted for every amount,
aligned or not. -/
theorem writer_allocate_at_end (w : Writer) (n : Nat) (ge : Bool) (h : w.pos = w.archive.size) :
    w.allocate n ge = .ok { w with archive := w.archive.allocateAtEnd n } := by
  rw [Writer.allocate_eq_map, if_pos h]; rfl

/-- …and before the end it is `BinArchive::allocate` at the cursor, which does not move. -/
theorem writer_allocate_inside (w : Writer) (n : Nat) (ge : Bool) (h : w.pos ≠ w.archive.size) :
    w.allocate n ge = (w.archive.allocate w.pos n ge).map (fun a => { w with archive := a }) := by
  rw [Writer.allocate_eq_map, if_neg h]

/-- The same statement address by address (what `read_string` / `read_labels` / `read_pointer`
return): the string of cell `x` is found at `shiftAt addr n x` and the `n` inserted bytes carry no
string; labels move by `shiftAfter … ge`; a pointer cell moves by `shiftAt`, its target by
`shiftAfter … ge`.  A key collision in `collect` would make these false. -/
theorem allocate_lookup (a a' : BinArchive) (addr n : Nat) (ge : Bool) (h : KeysNodup a)
    (hok : a.allocate addr n ge = .ok a') :
    (∀ x, lookup a'.text (shiftAt addr n x) = lookup a.text x)
    ∧ (∀ y, inside addr n y = true → lookup a'.text y = none ∧ lookup a'.pointers y = none)
    ∧ (∀ x, lookup a'.labels (shiftAfter addr n ge x) = lookup a.labels x)
    ∧ (∀ x, lookup a'.pointers (shiftAt addr n x) = (lookup a.pointers x).map (shiftAfter addr n ge)) := by
  obtain ⟨_, hc, _⟩ := allocate_content h hok
  simp only [allocated, Content.mk.injEq] at hc
  obtain ⟨_, ht, hp, hl, _⟩ := hc
  -- no shifted address falls into the inserted range
  have hzone : ∀ y, inside addr n y = true → ∀ x, shiftAt addr n x ≠ y := by
    intro y hy x
    simp [inside] at hy
    unfold shiftAt; split <;> omega
  rw [ht, hp, hl]
  refine ⟨fun x => ?_, fun y hy => ⟨?_, ?_⟩, fun x => ?_, fun x => ?_⟩
  · simpa using lookup_mapKey_inj a.text (shiftAt addr n) id (shiftAt_inj addr n) x
  · simpa using lookup_mapKey_none a.text (shiftAt addr n) id y (hzone y hy)
  · exact lookup_mapKey_none a.pointers (shiftAt addr n) (shiftAfter addr n ge) y (hzone y hy)
  · simpa using lookup_mapKey_inj a.labels (shiftAfter addr n ge) id (shiftAfter_inj addr n ge) x
  · exact lookup_mapKey_inj a.pointers (shiftAt addr n) (shiftAfter addr n ge) (shiftAt_inj addr n) x

/-- What `deallocate` builds once the request is accepted (`bin_archive.rs:670-684`). -/
def deallocResult (a : BinArchive) (addr n : Nat) (ge : Bool) : BinArchive :=
  { a with
    data := a.data.take addr ++ a.data.drop (addr + n)
    text := adjustText (filterTextOrLabels a.text addr n) addr n true
    labels := adjustLabels (filterTextOrLabels a.labels addr n) addr n true ge
    pointers := adjustPointers (filterPointers a.pointers addr n) addr n true ge
    cstrings := adjustCStrings
      (filterCStrings a.cstrings (fun x => !inRange addr n x)) addr n true }

theorem deallocate_eq (a : BinArchive) (addr n : Nat) (ge : Bool) (hs : a.size < 2 ^ 64) :
    a.deallocate addr n ge =
      if addr < a.size ∧ addr + n ≤ a.size then
        if addr % 4 = 0 ∧ n % 4 = 0 then .ok (deallocResult a addr n ge)
        else .err .Unaligned
      else .err .OutOfBounds := by
  simp only [deallocate_eq_checked, inRange_and_lt hs]; rfl

/-- `deallocate_spec`: an in-range, aligned remove request is accepted and the result is the
specification's image: exactly the bytes `[addr, addr+n)` go, the annotations located in the range
go, the pointers whose cell **or target** lies in it go, c-string uses in it go (and c-strings
without a use left), everything else is shifted back — whatever the `ge` flag. -/
theorem deallocate_spec (a : BinArchive) (addr n : Nat) (ge : Bool) (h : KeysNodup a)
    (hs : a.size < 2 ^ 64) (hacc : deallocAccepted a.size addr n) :
    ∃ a', a.deallocate addr n ge = .ok a' ∧ content a' = deallocated addr n (content a)
      ∧ a'.endian = a.endian ∧ KeysNodup a' := by
  have hok := (deallocate_eq a addr n ge hs).trans ((if_pos ⟨hacc.1, hacc.2.1⟩).trans (if_pos hacc.2.2))
  exact ⟨_, hok, (deallocate_content h hok).2⟩

/-- Whenever `deallocate` succeeds (no hypothesis on the size), the request was in range and the
result is the specification's image. -/
theorem deallocate_ok (a a' : BinArchive) (addr n : Nat) (ge : Bool) (h : KeysNodup a)
    (hok : a.deallocate addr n ge = .ok a') :
    deallocAccepted a.size addr n ∧ content a' = deallocated addr n (content a) ∧ KeysNodup a' := by
  obtain ⟨hacc, hc, _, hk⟩ := deallocate_content h hok
  exact ⟨hacc, hc, hk⟩

/-- A misaligned, out-of-range or overflowing remove request is rejected (range first). -/
theorem deallocate_rejected (a : BinArchive) (addr n : Nat) (ge : Bool) (hs : a.size < 2 ^ 64)
    (hrej : ¬ deallocAccepted a.size addr n) :
    a.deallocate addr n ge
      = .err (if addr < a.size ∧ addr + n ≤ a.size then .Unaligned else .OutOfBounds) := by
  rw [deallocate_eq _ _ _ _ hs]
  unfold deallocAccepted at hrej
  by_cases h1 : addr < a.size ∧ addr + n ≤ a.size
  · have : ¬ (addr % 4 = 0 ∧ n % 4 = 0) := fun h2 => hrej ⟨h1.1, h1.2, h2⟩
    simp [h1, this]
  · simp [h1]

/-- `truncate_spec`: a cut at or beyond the end is the identity; otherwise the data is cut and
every string, pointer cell, label and pending c-string use located at or beyond the cut is removed
(c-strings without a use left too), everything below is untouched.  Pointer *targets* are not
filtered — the statement does not ask for it (DESIGN N3). -/
theorem truncate_spec (a : BinArchive) (cut : Nat) (h : KeysNodup a) :
    content (a.truncate cut) = truncated cut (content a) ∧ (a.truncate cut).endian = a.endian
      ∧ KeysNodup (a.truncate cut) :=
  truncate_content a cut h

/-! ### rejected requests leave the archive unchanged -/

/-- `rejected_unchanged`: in the op machine (`&mut self` methods that return before mutating) a
rejected request — any call that returns an error — leaves archive and cursors exactly as they
were. -/
theorem rejected_unchanged (s : Sys) (op : Op) (e : Err) (hop : op ≠ .rSjis)
    (h : (s.step op).2 = .err e) : (s.step op).1 = s := (Sys.step_safe s op hop).2 e h

/-! ### every call keeps the invariant -/

variable {a a' : BinArchive} {addr n cut : Nat} {ge : Bool}

private theorem truncate_of_ge (h : a.size ≤ cut) : a.truncate cut = a :=
  if_pos h

private theorem allocateAtEnd_size (a : BinArchive) (n : Nat) : (a.allocateAtEnd n).size = a.size + n := by
  simp [allocateAtEnd, BinArchive.size]

private theorem inv_allocateAtEnd (hi : Inv a) : Inv (a.allocateAtEnd n) :=
  inv_of_addrs (s := a.size + n) ⟨Addrs.mono (a := a) (inv_iff_addrs.mp hi)
    (fun _ (h : _ < _) => Nat.lt_add_right n h) (fun _ (h : _ ≤ _) => Nat.le_add_right_of_le h),
    allocateAtEnd_size a n⟩

private theorem inv_allocate (hi : Inv a) (hok : a.allocate addr n ge = .ok a') : Inv a' := by
  obtain ⟨_, h, hs⟩ := allocate_addrs (Q' := (· < a.size + n)) (Ql' := (· ≤ a.size + n))
    (inv_iff_addrs.mp hi) hok
    (fun x h => Nat.lt_of_le_of_lt (shiftAt_le addr n x) (Nat.add_lt_add_right h n))
    (fun x h => Nat.le_trans (shiftAfter_le addr n ge x) (Nat.add_le_add_right h n))
  exact inv_of_addrs ⟨h, hs⟩

/-- One call of the machine keeps the invariant (distinct keys in every map, every annotation
inside the data), whatever the call, its addresses, amounts and values. -/
theorem step_inv (s : Sys) (op : Op) (hi : Inv s.arch) : Inv (s.step op).1.arch := by
  have hq := inv_iff_addrs.mp hi
  refine Sys.arch_ind s op hi (fun r a' hr hc => ?_)
  cases op <;> cases hr
  case allocEnd | wAllocEnd => cases hc; exact inv_allocateAtEnd hi
  case allocate => exact inv_allocate hi hc
  case wAlloc =>
    split at hc
    · cases hc; exact inv_allocateAtEnd hi
    · exact inv_allocate hi hc
  case deallocate x n ge =>
    obtain ⟨hacc, h, hs⟩ := deallocate_addrs (Q' := (· < s.arch.size - n)) (Ql' := (· ≤ s.arch.size - n)) hq hc
      (fun x hx h => pull_lt _ _ _ _ hx (deallocate_content hi.1 hc).1.2.1 h)
      (fun x hx h => pull_le _ _ _ _ hx (deallocate_content hi.1 hc).1.2.1 h)
    exact inv_of_addrs ⟨h, hs⟩
  case truncate c =>
    cases hc
    by_cases hcut : c < s.arch.size
    · obtain ⟨h, hs⟩ := truncate_addrs (Q' := (· < c)) (Ql' := (· ≤ c)) hq hcut
        (fun _ h _ => h) (fun _ h _ => Nat.le_of_lt h)
      exact inv_of_addrs ⟨h, hs⟩
    · rw [truncate_of_ge (Nat.le_of_not_lt hcut)]; exact hi
  case write | wWrite => exact inv_of_addrs (writeTy_addrs hc hq)
  case writeBytes => exact inv_of_addrs (writeBytes_addrs hc hq)
  case wBytes =>
    split at hc
    · cases hc; exact hi
    · exact inv_of_addrs (writeBytes_addrs hc hq)
  case writeStr | wStr => exact inv_of_addrs (writeString_addrs hc hq (fun _ _ h => h))
  case delStr => exact inv_of_addrs (writeString_addrs (v := none) hc hq (fun _ _ h => h))
  case writePtr | wPtr => exact inv_of_addrs (writePointer_addrs hc hq (fun _ _ h => h))
  case delPtr => exact inv_of_addrs (writePointer_addrs (v := none) hc hq (fun _ _ h => h))
  case writeCStr | wCStr => exact inv_of_addrs (writeCString_addrs hc hq id)
  case writeLabel | wLabel => exact inv_of_addrs (writeLabel_addrs hc hq id)
  case writeLabels => exact inv_of_addrs (writeLabels_addrs hc hq id)
  case delLabels => exact inv_of_addrs (deleteLabels_addrs hc hq)
  case delLabel => exact inv_of_addrs (deleteLabel_addrs hc hq)

/-- `history`: after every sequence of allocate, allocate-at-end, deallocate, truncate, write and
delete calls (and every other call of the machine, positional or through the streams), with all
addresses, amounts and both `ge` flags, every map still has distinct keys — so no relocation ever
merged two annotations — and every annotation lies inside the data (labels at most at the end). -/
theorem history (e : Endian) (ops : List Op) : Inv ((Sys.init e).final ops).arch :=
  Sys.final_ind (P := fun s _ => Inv s.arch) (fun s op _ => step_inv s op) ops _ (inv_new e)

/-- Hence every accepted relocation in any history is the specification's image with nothing
merged: the hypotheses of `allocate_spec` / `deallocate_spec` / `truncate_spec` hold in every
reachable state. -/
theorem history_keys (e : Endian) (ops : List Op) : KeysNodup ((Sys.init e).final ops).arch :=
  (history e ops).1

/-! ### aligned histories keep whole cells inside the data, pairwise disjoint -/

/-- Every annotation sits on a cell boundary and the data is a whole number of cells. -/
def Aligned (a : BinArchive) : Prop :=
  a.size % 4 = 0 ∧ (∀ k ∈ keys a.text, k % 4 = 0) ∧ (∀ k ∈ keys a.pointers, k % 4 = 0)
  ∧ (∀ k ∈ keys a.labels, k % 4 = 0) ∧ (∀ p ∈ a.cstrings, ∀ x ∈ p.2, x % 4 = 0)

/-- The calls of an *aligned* history: annotations are written at cell addresses, the data grows
and is cut by whole cells (relocation requests need no side condition: misaligned ones are
rejected).  Everything else — reads, typed and byte writes at any address, deletes, cursor
movements — is unrestricted. -/
def OpAligned (s : Sys) : Op → Prop
  | .allocEnd n | .wAllocEnd n => n % 4 = 0
  | .wAlloc n _ => n % 4 = 0
  | .truncate c => c % 4 = 0
  | .writeStr x (some _) | .writePtr x (some _) | .writeCStr x _ | .writeLabel x _ | .writeLabels x _ => x % 4 = 0
  | .wStr (some _) | .wPtr (some _) | .wCStr _ | .wLabel _ => s.wpos % 4 = 0
  | _ => True

private theorem aligned_iff_addrs (hk : KeysNodup a) :
    Aligned a ↔ a.size % 4 = 0 ∧ Addrs (· % 4 = 0) (· % 4 = 0) a := by
  simp only [Aligned, Addrs, Content.All, forall_keys, hk, true_and]

private theorem aligned_of_addrs (h0 : a.size % 4 = 0)
    (h : Addrs (· % 4 = 0) (· % 4 = 0) a' ∧ a'.size = a.size) : Aligned a' :=
  (aligned_iff_addrs h.1.1).mpr ⟨h.2 ▸ h0, h.1⟩

private theorem aligned_allocateAtEnd (hn : n % 4 = 0) (hi : Aligned a) : Aligned (a.allocateAtEnd n) :=
  ⟨by rw [allocateAtEnd_size, Nat.add_mod, hi.1, hn], hi.2⟩

private theorem aligned_allocate (hk : KeysNodup a) (hi : Aligned a)
    (hok : a.allocate addr n ge = .ok a') : Aligned a' := by
  have hn := (allocate_content hk hok).1.2.2
  obtain ⟨_, h, hs⟩ := allocate_addrs (Q' := (· % 4 = 0)) (Ql' := (· % 4 = 0))
    ((aligned_iff_addrs hk).mp hi).2 hok
    (fun x => shiftAt_mod addr n x hn) (fun x => shiftAfter_mod addr n ge x hn)
  exact (aligned_iff_addrs h.1).mpr ⟨by rw [hs, Nat.add_mod, hi.1, hn], h⟩

/-- One aligned call keeps every annotation on a cell boundary and the data a whole number of cells. -/
theorem step_aligned (s : Sys) (op : Op) (hk : KeysNodup s.arch) (hi : Aligned s.arch)
    (hop : OpAligned s op) : Aligned (s.step op).1.arch := by
  have hq := ((aligned_iff_addrs hk).mp hi).2
  refine Sys.arch_ind s op hi (fun r a' hr hc => ?_)
  cases op <;> cases hr
  case allocEnd | wAllocEnd => cases hc; exact aligned_allocateAtEnd hop hi
  case allocate => exact aligned_allocate hk hi hc
  case wAlloc =>
    split at hc
    · cases hc; exact aligned_allocateAtEnd hop hi
    · exact aligned_allocate hk hi hc
  case deallocate x n ge =>
    have hacc := (deallocate_content hk hc).1
    obtain ⟨_, h, hs⟩ := deallocate_addrs (Q' := (· % 4 = 0)) (Ql' := (· % 4 = 0)) hq hc
      (fun y _ => pull_mod x n y hacc.2.2.2) (fun y _ => pull_mod x n y hacc.2.2.2)
    exact (aligned_iff_addrs h.1).mpr ⟨hs ▸ Nat.sub_mod_eq_zero_of_mod_eq (hi.1.trans hacc.2.2.2.symm), h⟩
  case truncate c =>
    cases hc
    by_cases hcut : c < s.arch.size
    · obtain ⟨h, hs⟩ := truncate_addrs (Q' := (· % 4 = 0)) (Ql' := (· % 4 = 0)) hq hcut
        (fun _ _ h => h) (fun _ _ h => h)
      exact (aligned_iff_addrs h.1).mpr ⟨by rw [hs]; exact hop, h⟩
    · rw [truncate_of_ge (Nat.le_of_not_lt hcut)]; exact hi
  case write | wWrite => exact aligned_of_addrs hi.1 (writeTy_addrs hc hq)
  case writeBytes => exact aligned_of_addrs hi.1 (writeBytes_addrs hc hq)
  case wBytes =>
    split at hc
    · cases hc; exact hi
    · exact aligned_of_addrs hi.1 (writeBytes_addrs hc hq)
  case writeStr | wStr =>
    exact aligned_of_addrs hi.1 (writeString_addrs hc hq (fun _ hv _ => by subst hv; exact hop))
  case writePtr | wPtr =>
    exact aligned_of_addrs hi.1 (writePointer_addrs hc hq (fun _ hv _ => by subst hv; exact hop))
  case delStr => exact aligned_of_addrs hi.1 (writeString_addrs (v := none) hc hq (fun _ hv => nomatch hv))
  case delPtr => exact aligned_of_addrs hi.1 (writePointer_addrs (v := none) hc hq (fun _ hv => nomatch hv))
  case writeCStr | wCStr => exact aligned_of_addrs hi.1 (writeCString_addrs hc hq (fun _ => hop))
  case writeLabel | wLabel => exact aligned_of_addrs hi.1 (writeLabel_addrs hc hq (fun _ => hop))
  case writeLabels => exact aligned_of_addrs hi.1 (writeLabels_addrs hc hq (fun _ => hop))
  case delLabels => exact aligned_of_addrs hi.1 (deleteLabels_addrs hc hq)
  case delLabel => exact aligned_of_addrs hi.1 (deleteLabel_addrs hc hq)

private theorem cell_fits {k s : Nat} (hk : k % 4 = 0) (hs : s % 4 = 0) (h : k < s) : k + 4 ≤ s := by
  omega

private theorem cells_apart {k k' : Nat} (hk : k % 4 = 0) (hk' : k' % 4 = 0) (hne : k ≠ k') :
    k + 4 ≤ k' ∨ k' + 4 ≤ k := by
  omega

/-- A history all of whose calls are aligned in the state they are issued in. -/
def RunAligned : Sys → List Op → Prop
  | _, [] => True
  | s, op :: ops => OpAligned s op ∧ RunAligned (s.step op).1 ops

/-- `history` for aligned histories (the way the library itself uses archives): in every reachable
state each string cell, pointer cell and pending c-string use is a whole 4-byte cell inside the
data on a cell boundary, labels sit on cell boundaries up to the end address, and two different
cells of one map never overlap — so the state serialises with every annotated cell inside the data.
Of C01's well-formedness this is containment and disjointness within each map; cells of different
maps may coincide (a string and a pointer can be written to the same cell).  (Pointer *targets*
are not constrained: truncate does not filter them, DESIGN N3.) -/
theorem history_aligned (e : Endian) (ops : List Op) (hr : RunAligned (Sys.init e) ops) :
    let a := ((Sys.init e).final ops).arch
    (∀ k ∈ keys a.text, k % 4 = 0 ∧ k + 4 ≤ a.size)
    ∧ (∀ k ∈ keys a.pointers, k % 4 = 0 ∧ k + 4 ≤ a.size)
    ∧ (∀ p ∈ a.cstrings, ∀ x ∈ p.2, x % 4 = 0 ∧ x + 4 ≤ a.size)
    ∧ (∀ k ∈ keys a.labels, k % 4 = 0 ∧ k ≤ a.size)
    ∧ (∀ k ∈ keys a.text, ∀ k' ∈ keys a.text, k ≠ k' → k + 4 ≤ k' ∨ k' + 4 ≤ k)
    ∧ (∀ k ∈ keys a.pointers, ∀ k' ∈ keys a.pointers, k ≠ k' → k + 4 ≤ k' ∨ k' + 4 ≤ k) := by
  have h0 : Aligned (Sys.init e).arch := by
    simp [Aligned, Sys.init, BinArchive.new, BinArchive.size, keys]
  obtain ⟨⟨_, b1, b2, b3, b4⟩, ⟨a0, a1, a2, a3, a4⟩, _⟩ :=
    Sys.final_ind (P := fun s ops => Inv s.arch ∧ Aligned s.arch ∧ RunAligned s ops)
      (fun s op _ ⟨h1, h2, h3⟩ => ⟨step_inv s op h1, step_aligned s op h1.1 h2 h3.1, h3.2⟩)
      ops _ ⟨inv_new e, h0, hr⟩
  exact ⟨fun k hk => ⟨a1 k hk, cell_fits (a1 k hk) a0 (b1 k hk)⟩,
    fun k hk => ⟨a2 k hk, cell_fits (a2 k hk) a0 (b2 k hk)⟩,
    fun p hp x hx => ⟨a4 p hp x hx, cell_fits (a4 p hp x hx) a0 (b4 p hp x hx)⟩,
    fun k hk => ⟨a3 k hk, b3 k hk⟩,
    fun k hk k' hk' => cells_apart (a1 k hk) (a1 k' hk'),
    fun k hk k' hk' => cells_apart (a2 k hk) (a2 k' hk')⟩

/-! ### non-vacuity -/

/-- A 3-cell archive with a string at 4, a pointer 8 → 4 and a label at 4 has distinct keys; the
relocation images are the expected ones. -/
example :
    let a : BinArchive := ⟨List.replicate 12 0, [(4, bs ['s'])], [(8, 4)], [(4, [bs ['L']])], [(bs ['c'], [0])], .little⟩
    KeysNodup a ∧ allocAccepted a.size 4 8 ∧ deallocAccepted a.size 0 4
    ∧ (allocated 4 8 false (content a)).text = [(12, bs ['s'])]
    ∧ (allocated 4 8 false (content a)).labels = [(4, [bs ['L']])]
    ∧ (allocated 4 8 true (content a)).labels = [(12, [bs ['L']])]
    ∧ (allocated 4 8 true (content a)).ptrs = [(16, 12)]
    ∧ (deallocated 4 4 (content a)).ptrs = []
    ∧ (deallocated 0 4 (content a)).ptrs = [(4, 0)]
    ∧ (deallocated 0 4 (content a)).cstrs = [] := by
  refine ⟨by simp [KeysNodup, keys], by decide, by decide, by decide, by decide, by decide, by decide,
    by decide, by decide, by decide⟩

end Mila.Props.C03
