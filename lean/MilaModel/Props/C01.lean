/-
C01 — Bin archive content survives serialize → parse, for any conforming layout.

Property theorems only (helper lemmas live in `MilaModel/Lemmas/Ser*.lean`).  The model
(`Mila.BinArchive.serialize` / `parse`, `Model/BinArchive.lean`) transcribes `src/bin_archive.rs`
`serialize` / `from_bytes`; the specification (`Mila.Spec.Image.Conforms`, `Content`) is written
from the property statement.  The tie model <-> Rust is the `binser` correspondence stream.

Vocabulary (defined in `Lemmas/SerDefs.lean`, `Spec/ArchiveImage.lean`):
* `ArchWF a`        — the quantifier: at most one pointer / string / c-string per 4-byte cell (cells
                      pairwise disjoint and inside the data), targets and label addresses `≤ size`,
                      any data length (not necessarily a multiple of 4);
* `InDomain D a`    — every string, label and c-string of `a` lies in `D`, and `c.Faithful D` says
                      the codec represents `D` losslessly and NUL-free (the Shift-JIS assumption);
* `contentPlus c a` — the content the image of `a` denotes: with pending c-strings the padded pool
                      has become data and every c-string use an internal pointer into it (this is
                      forced: `read_c_string` reads through such a pointer); without c-strings it is
                      `contentOf a`;
* `imageSize c a`   — the size of the image; the 32-bit format needs it `< 2^32`.
-/
import MilaModel.Lemmas.SerObs
import MilaModel.Lemmas.SerOracle
import MilaModel.Lemmas.SerSize
import MilaModel.Lemmas.SjisSub

namespace Mila.Props.C01
open Mila Mila.BinArchive Mila.Ser Mila.Spec.Image

/-- **The parser recovers the content of every conforming image** — whatever the order of the
pointer and label tables and wherever the strings sit (shared or duplicated) in the text section,
in either endianness.  `Parsed`: the archive's data is the image's data block, its strings and
pointers are `K`'s (as finite maps: `List.Perm`), the label list of every address is `K`'s in the
same order, there is no pending c-string; `ContentEq` restates it as equality of contents. -/
theorem parse_conforming (c : Codec) (D : Str → Prop) (e : Endian) (f : Bytes) (K : Content)
    (hf : c.Faithful D) (wf : K.WF) (hS : ∀ p ∈ K.strings, D p.2)
    (hL : ∀ p ∈ K.labels, ∀ n ∈ p.2, D n) (hc : Conforms c.enc e f K) :
    ∃ b, parse c e f = .ok b ∧ Parsed e f K b ∧ ContentEq K (contentOf b) := by
  have ctx : Ctx c D e f K := ⟨hc, wf, hf, hS, hL⟩
  obtain ⟨b, hb, hp⟩ := Ser.parse_conforming ctx
  exact ⟨b, hb, hp, parsed_contentEq ctx hp⟩

/-- **`serialize` succeeds on every archive of the domain and its image conforms to the format**,
strings and c-strings mixed, both endiannesses. -/
theorem serialize_conforms (c : Codec) (D : Str → Prop) (a : BinArchive) (wf : ArchWF a)
    (hf : c.Faithful D) (dom : InDomain D a) (small : imageSize c a < 2 ^ 32) :
    ∃ f, serialize c a = .ok f ∧ f.length = imageSize c a ∧
      Conforms c.enc a.endian f (contentPlus c a) :=
  Ser.serialize_conforms c D a wf hf dom small

/-- **The serialized image is well-formed**: header totals exact (file size; data size including
the c-string pool; number of pointer-table entries = pointers + c-string uses + strings; number of
label entries), both tables inside the file, and the pointer and label tables start at offsets
`≡ 0 (mod 4)` whenever the data length is a multiple of 4 (the pool is padded).  That every table
entry and string resolves inside the file is part of `Conforms` (`serialize_conforms`):
`wordAt … = some _` and `StrAt` only hold inside the file. -/
theorem serialize_wellformed (c : Codec) (D : Str → Prop) (a : BinArchive) (wf : ArchWF a)
    (hf : c.Faithful D) (dom : InDomain D a) (small : imageSize c a < 2 ^ 32) :
    ∃ f, serialize c a = .ok f ∧
      wordAt a.endian f 0 = some f.length ∧
      wordAt a.endian f 4 = some (a.size + (cstrPool c a).length) ∧
      wordAt a.endian f 8 = some (archCells a).length ∧
      wordAt a.endian f 12 = some ((a.labels.map (·.2.length)).sum) ∧
      0x20 + (a.size + (cstrPool c a).length) + 4 * (archCells a).length
        + 8 * (a.labels.map (·.2.length)).sum ≤ f.length ∧
      (a.size % 4 = 0 →
        (0x20 + (a.size + (cstrPool c a).length)) % 4 = 0 ∧
        (0x20 + (a.size + (cstrPool c a).length) + 4 * (archCells a).length) % 4 = 0) := by
  obtain ⟨f, hs, _, hc⟩ := Ser.serialize_conforms c D a wf hf dom small
  have hd : (contentPlus c a).data.length = a.size + (cstrPool c a).length :=
    contentPlus_data_length c a
  have hn : (contentPlus c a).cells.length = (archCells a).length := (contentPlus_cells_perm c a).length_eq
  refine ⟨f, hs, hc.hSize, hd ▸ hc.hData, hn ▸ hc.hPtrs, hc.hLbls, ?_, ?_⟩
  · have h : 0x20 + ((contentPlus c a).data.length + 4 * (contentPlus c a).cells.length
        + 8 * (a.labels.map (·.2.length)).sum) ≤ f.length := hc.fits
    rw [hd, hn] at h
    simpa only [Nat.add_assoc] using h
  · intro h4
    have hp : 4 ∣ (cstrPool c a).length := Nat.dvd_of_mod_eq_zero (padTo4_length_mod _)
    have h1 : 4 ∣ 0x20 + (a.size + (cstrPool c a).length) :=
      Nat.dvd_add ⟨8, rfl⟩ (Nat.dvd_add (Nat.dvd_of_mod_eq_zero h4) hp)
    exact ⟨Nat.mod_eq_zero_of_dvd h1, Nat.mod_eq_zero_of_dvd (Nat.dvd_add h1 (Nat.dvd_mul_right 4 _))⟩

/-- **serialize → parse gives back the archive**: the image re-parses (same endianness) to an
archive of the same size plus the pool (pool empty without c-strings) with
* the same raw bytes outside annotated cells (followed by the pool),
* the same string in every cell, the same pointer in every pointer cell and no pointer in a cell
  that had neither a pointer nor a c-string,
* `read_c_string` returning each pending c-string at each of its cells,
* the same labels at every address in the same order. -/
theorem parse_serialize (c : Codec) (D : Str → Prop) (a : BinArchive) (wf : ArchWF a)
    (hf : c.Faithful D) (dom : InDomain D a) (small : imageSize c a < 2 ^ 32) :
    ∃ f b, serialize c a = .ok f ∧ parse c a.endian f = .ok b ∧ b.endian = a.endian ∧
      b.size = a.size + (cstrPool c a).length ∧
      (∀ i, (∀ x ∈ archCells a, i < x ∨ x + 4 ≤ i) → b.data[i]? = (a.data ++ cstrPool c a)[i]?) ∧
      (∀ x, UMap.get b.text x = UMap.get a.text x) ∧
      (∀ p ∈ a.pointers, UMap.get b.pointers p.1 = some p.2) ∧
      (∀ x, (∀ p ∈ a.pointers, p.1 ≠ x) → (∀ q ∈ a.cstrings, x ∉ q.2) → UMap.get b.pointers x = none) ∧
      (∀ q ∈ a.cstrings, ∀ x ∈ q.2, readCString c b x = .ok (some q.1)) ∧
      (∀ x, (UMap.get b.labels x).getD [] = (UMap.get a.labels x).getD []) := by
  obtain ⟨f, b, hs, hb, hc, hp⟩ := Ser.parse_serialize c D a wf hf dom small
  have rt : RoundTrip c D a f b := ⟨wf, hf, dom, hc, hp⟩
  exact ⟨f, b, hs, hb, hp.endian, rt_size rt, fun i hi => rt_bytes rt i hi, rt_string rt,
    fun p hp => rt_pointer rt hp, fun x h1 h2 => rt_pointer_none rt h1 h2,
    fun q hq x hx => rt_cstring rt hq hx, rt_labels rt⟩

/-- **The `Faithful` hypothesis is met by the codec the driver executes**: the sub-codec `sjisSub`
(ASCII, half-width katakana, hiragana, full-width katakana, Greek, Cyrillic) encodes every NUL-free
string over its alphabet, of any length, without error and NUL-free, and decodes it back. -/
theorem sjisSub_faithful : sjisSub.Faithful Sjis.SubDomain := Mila.sjisSub_faithful

/-- The round trip, unconditionally in the codec, for the executable sub-codec: no assumption about
the text encoding remains (strings, labels and c-strings range over `Sjis.SubDomain`). -/
theorem parse_serialize_sjisSub (a : BinArchive) (wf : ArchWF a) (dom : InDomain Sjis.SubDomain a)
    (small : imageSize sjisSub a < 2 ^ 32) :
    ∃ f b, serialize sjisSub a = .ok f ∧ parse sjisSub a.endian f = .ok b ∧ b.endian = a.endian ∧
      b.size = a.size + (cstrPool sjisSub a).length ∧
      (∀ x, UMap.get b.text x = UMap.get a.text x) ∧
      (∀ p ∈ a.pointers, UMap.get b.pointers p.1 = some p.2) ∧
      (∀ q ∈ a.cstrings, ∀ x ∈ q.2, readCString sjisSub b x = .ok (some q.1)) ∧
      (∀ x, (UMap.get b.labels x).getD [] = (UMap.get a.labels x).getD []) := by
  obtain ⟨f, b, h1, h2, h3, h4, _, h6, h7, _, h9, h10⟩ :=
    parse_serialize sjisSub Sjis.SubDomain a wf sjisSub_faithful dom small
  exact ⟨f, b, h1, h2, h3, h4, h6, h7, h9, h10⟩

/-- Without pending c-strings nothing is appended: same size, and the accessors `read_string` /
`read_pointer` answer identically on the original and the re-parsed archive at every address. -/
theorem parse_serialize_no_cstrings (c : Codec) (D : Str → Prop) (a : BinArchive) (wf : ArchWF a)
    (hf : c.Faithful D) (dom : InDomain D a) (small : imageSize c a < 2 ^ 32)
    (hC : a.cstrings = []) :
    ∃ f b, serialize c a = .ok f ∧ parse c a.endian f = .ok b ∧ b.size = a.size ∧
      (∀ x, readString b x = readString a x) ∧ (∀ x, readPointer b x = readPointer a x) := by
  obtain ⟨f, b, hs, hb, hc, hp⟩ := Ser.parse_serialize c D a wf hf dom small
  have rt : RoundTrip c D a f b := ⟨wf, hf, dom, hc, hp⟩
  have hsz : b.size = a.size := by rw [rt_size rt, cstrPool_nil c a hC]; rfl
  refine ⟨f, b, hs, hb, hsz, ?_, ?_⟩
  · intro x
    unfold readString validateCell
    rw [hsz, rt_string rt x]
  · intro x
    have hptr : UMap.get b.pointers x = UMap.get a.pointers x := by
      rw [UMap.get_perm (rt_pointer_keys_nodup rt) rt.parsed.pointers x]
      simp [contentPlus, cstrPointers, cstrSorted, hC]
    unfold readPointer validateCell
    rw [hsz, hptr]

/-- **The driver's executable conformance oracle is sound**: whenever `conformsCheck` (the
decision procedure the `binser` stream runs on the implementation's images and on the spec-side
generator's foreign images) reports no violated clause, the declarative relation `Conforms` holds
— so an accepted image is one to which `parse_conforming` applies. -/
theorem oracle_sound (enc : Bytes → Option Bytes) (e : Endian) (f : Bytes) (K : Content)
    (h : conformsCheck enc e f K = none) : Conforms enc e f K :=
  (conformsCheck_iff enc e f K).mp h

/-- **The oracle is complete**: every image that conforms is accepted (no hypothesis on `K` is
needed: `Conforms` already says that every string present is encodable). -/
theorem oracle_complete (enc : Bytes → Option Bytes) (e : Endian) (f : Bytes) (K : Content)
    (h : Conforms enc e f K) : conformsCheck enc e f K = none :=
  (conformsCheck_iff enc e f K).mpr h

/-- The executable checker the driver runs on the implementation's images *is* the declarative
relation. -/
theorem oracle_iff (enc : Bytes → Option Bytes) (e : Endian) (f : Bytes) (K : Content) :
    conformsCheck enc e f K = none ↔ Conforms enc e f K :=
  conformsCheck_iff enc e f K

/-- The oracle never raises a false alarm on a correct implementation: it accepts the image the
model of `serialize` produces for every archive of the domain (for the content `contentPlus`). -/
theorem oracle_accepts_serialize (c : Codec) (D : Str → Prop) (a : BinArchive) (wf : ArchWF a)
    (hf : c.Faithful D) (dom : InDomain D a) (small : imageSize c a < 2 ^ 32) :
    ∃ f, serialize c a = .ok f ∧ conformsCheck c.enc a.endian f (contentPlus c a) = none := by
  obtain ⟨f, hs, _, hc⟩ := Ser.serialize_conforms c D a wf hf dom small
  exact ⟨f, hs, oracle_complete _ _ _ _ hc⟩

/-- **Closed-form bound on the image size** (the hypothesis `imageSize c a < 2^32` of the theorems
above, in terms of the archive's own numbers): header, data, padded c-string pool
(`poolBytes + 3`), four bytes per annotated cell, eight per label, and `|enc s| + 1` bytes
(`encLen`) per label name and string present (`textBytes`, with repetitions). -/
theorem imageSize_le (c : Codec) (a : BinArchive) (wf : ArchWF a) :
    imageSize c a ≤ 0x20 + a.size + (poolBytes c a + 3) + 4 * (archCells a).length
      + 8 * (a.labels.map (·.2.length)).sum + textBytes c a := by
  rw [imageSize_eq c a wf]
  have h1 := cstrPool_length_le c a
  have h2 : (textSection c.enc a.endian (contentPlus c a)).length ≤ textBytes c a :=
    textSection_length_le c a.endian (contentPlus c a)
  omega

/-- Less than 256 MiB of data, fewer than 2^20 annotations (cells + labels) and less than 256 MiB
of encoded text (c-strings, label names, strings) give an image smaller than 4 GiB. -/
theorem imageSize_small (c : Codec) (a : BinArchive) (wf : ArchWF a) (hsize : a.size < 2 ^ 28)
    (hcount : (archCells a).length + (a.labels.map (·.2.length)).sum < 2 ^ 20)
    (htext : poolBytes c a + textBytes c a < 2 ^ 28) : imageSize c a < 2 ^ 32 := by
  have := imageSize_le c a wf
  omega

/-! ### non-vacuity: a concrete archive of the domain (string + c-string + end label, the D1 shape) -/

/-- 8 data bytes, string `"hi"` at cell 0, pending c-string `"X"` at cell 4, label `"X"` at the
end address, little-endian. -/
def ex : BinArchive :=
  ⟨List.replicate 8 0, [(0, bs ['h', 'i'])], [], [(8, [bs ['X']])], [(bs ['X'], [4])], .little⟩

def exD (s : Str) : Prop := s = bs ['h', 'i'] ∨ s = bs ['X']

private theorem ex_faithful : sjisSub.Faithful exD := by
  rintro s (rfl | rfl)
  · exact sjisSub_faithful _ ⟨[0x68, 0x69], by decide, by decide⟩
  · exact sjisSub_faithful _ ⟨[0x58], by decide, by decide⟩

private theorem ex_wf : ArchWF ex where
  inside := by decide
  disjoint := by decide
  targets := by decide
  labelKeys := by decide
  labelAddrs := by decide

private theorem ex_dom : InDomain exD ex where
  text := by intro p hp; simp [ex] at hp; subst hp; exact Or.inl rfl
  labels := by
    intro p hp n hn; simp [ex] at hp; subst hp; simp at hn; subst hn; exact Or.inr rfl
  cstrings := by intro p hp; simp [ex] at hp; subst hp; exact Or.inr rfl

private theorem ex_small : imageSize sjisSub ex < 2 ^ 32 :=
  imageSize_small sjisSub ex ex_wf (by decide) (by decide) (by decide)

/-- The hypotheses of the theorems above are satisfiable by a non-trivial archive, and the
round-trip conclusion holds of it. -/
example : ∃ f b, serialize sjisSub ex = .ok f ∧ parse sjisSub .little f = .ok b ∧
    readCString sjisSub b 4 = .ok (some (bs ['X'])) := by
  obtain ⟨f, b, hs, hb, _, _, _, _, _, _, hcs, _⟩ :=
    parse_serialize sjisSub exD ex ex_wf ex_faithful ex_dom ex_small
  exact ⟨f, b, hs, hb, hcs (bs ['X'], [4]) (by simp [ex]) 4 (by simp)⟩

end Mila.Props.C01
