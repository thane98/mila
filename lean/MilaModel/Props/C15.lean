/-
C15 — GameCube/Wii pack archive: build → parse is identity, the layout is aligned, and the parser
recovers the files of every conforming image.

Property theorems only (helper lemmas live in `MilaModel/Lemmas/Pack.lean`).  The model
(`Mila.Fe9Arc`) transcribes `src/fe9_arc.rs`; the specification (`Mila.Spec.Pack`) is written
from the property statement.  The tie model <-> Rust is the `pack` correspondence stream.
-/
import MilaModel.Model.Fe9Arc
import MilaModel.Spec.PackImage
import MilaModel.Lemmas.Pack
import MilaModel.Lemmas.SjisSub

namespace Mila.Props.C15
open Mila Mila.Fe9Arc Mila.PackLemmas
open Mila.Spec.Pack (word ConformsPack Aligned32 DistinctNames)

/-- **Parser clause.** For every image that conforms to the pack layout for the ordered files
`m` — wherever the names and bodies are placed, shared, overlapping or separated by gaps — the
parser returns exactly `m`, in record order.  `D` is the name domain on which the Shift-JIS codec
is faithful. -/
theorem pack_parse_conforming {c : Codec} {D : Str → Prop} (hf : c.Faithful D)
    {img : Bytes} {m : Files} (hc : ConformsPack c.enc img m) (hD : ∀ kv ∈ m, D kv.1)
    (hN : DistinctNames m) : parse c img = .ok m := by
  obtain ⟨_, hmagic, hcount, hE⟩ := hc
  have hbound : m.length = 0 ∨ 8 + 16 * (0 + m.length) ≤ img.length := by
    by_cases h0 : m.length = 0
    · exact Or.inl h0
    · obtain ⟨_, _, _, _, _, hsz, _⟩ := entryOk_iff.mp (hE (m.length - 1) (by omega))
      have := le_of_word hsz
      omega
  have hents := readEntries_ok img m.length 0 hbound
  have hfiles := readFiles_ok hf img m 0 [] (fun i h => by rw [Nat.zero_add]; exact hE i h) hD hN
  simp only [Nat.mul_zero, Nat.add_zero] at hents
  simp only [parse, readBe_eq, hmagic, hcount, hents]
  exact hfiles

/-- **Builder clause.** For every ordered list of up to 65535 files whose names the codec
represents, `serialize` succeeds, and (for images below 4 GiB, where the `as u32` casts are exact)
the image conforms to the pack layout for exactly these files — header count = number of files,
every recorded name offset, file offset and size exact — and every file address is a multiple
of 32.  Empty files and the empty archive are included (no hypothesis on contents). -/
theorem pack_serialize_conforms {c : Codec} {D : Str → Prop} (hf : c.Faithful D) (m : Files)
    (hD : ∀ kv ∈ m, D kv.1) (hlen : m.length ≤ 65535) :
    ∃ img, serialize c m = .ok img ∧
      (img.length < 2 ^ 32 → ConformsPack c.enc img m ∧ Aligned32 img m.length) := by
  have henc := fun kv hkv => enc_isSome_of_faithful hf (hD kv hkv)
  exact ⟨imageOf c m, serialize_eq m henc, imageOf_conforms m henc hlen⟩

/-- The layout relation is unambiguous: an image conforms to the pack layout for at most one
ordered set of distinctly named files of the domain. -/
theorem pack_conforming_unique {c : Codec} {D : Str → Prop} (hf : c.Faithful D) {img : Bytes}
    {m m' : Files} (hc : ConformsPack c.enc img m) (hc' : ConformsPack c.enc img m')
    (hD : ∀ kv ∈ m, D kv.1) (hD' : ∀ kv ∈ m', D kv.1) (hN : DistinctNames m)
    (hN' : DistinctNames m') : m = m' :=
  Res.ok.inj ((pack_parse_conforming hf hc hD hN).symm.trans (pack_parse_conforming hf hc' hD' hN'))

/-- **Round trip.** Building a pack archive from an ordered set of up to 65535 distinctly named
files and parsing it returns the same names in the same order with the same contents. -/
theorem pack_roundtrip {c : Codec} {D : Str → Prop} (hf : c.Faithful D) (m : Files)
    (hD : ∀ kv ∈ m, D kv.1) (hN : DistinctNames m) (hlen : m.length ≤ 65535) :
    ∃ img, serialize c m = .ok img ∧ (img.length < 2 ^ 32 → parse c img = .ok m) := by
  obtain ⟨img, hs, hc⟩ := pack_serialize_conforms hf m hD hlen
  exact ⟨img, hs, fun hsz => pack_parse_conforming hf (hc hsz).1 hD hN⟩

/-- Consequently serialisation is injective on its domain: two different ordered file sets never
produce the same archive image (order, names and contents are all recoverable). -/
theorem pack_serialize_injective {c : Codec} {D : Str → Prop} (hf : c.Faithful D) (m m' : Files)
    (hD : ∀ kv ∈ m, D kv.1) (hD' : ∀ kv ∈ m', D kv.1) (hN : DistinctNames m)
    (hN' : DistinctNames m') (hlen : m.length ≤ 65535) (hlen' : m'.length ≤ 65535)
    {img : Bytes} (hs : serialize c m = .ok img) (hs' : serialize c m' = .ok img)
    (hsz : img.length < 2 ^ 32) : m = m' := by
  obtain ⟨i1, h1, p1⟩ := pack_roundtrip hf m hD hN hlen
  obtain ⟨i2, h2, p2⟩ := pack_roundtrip hf m' hD' hN' hlen'
  cases h1.symm.trans hs
  cases h2.symm.trans hs'
  exact Res.ok.inj ((p1 hsz).symm.trans (p2 hsz))

/-- The round trip with no assumption about the text encoding left: for the executable sub-codec
`sjisSub` (faithful on its whole alphabet, `sjisSub_faithful`), names of any length over ASCII,
kana, Greek and Cyrillic — including the names whose UTF-8 and Shift-JIS lengths coincide. -/
theorem pack_roundtrip_sjisSub (m : Files) (hD : ∀ kv ∈ m, Sjis.SubDomain kv.1) (hN : DistinctNames m)
    (hlen : m.length ≤ 65535) :
    ∃ img, serialize sjisSub m = .ok img ∧ (img.length < 2 ^ 32 → parse sjisSub img = .ok m) :=
  pack_roundtrip Mila.sjisSub_faithful m hD hN hlen

/-- Non-vacuity of the name domain: `"Ω2"` (a 2-byte/2-byte character followed by one ASCII
character — the shape on which an encoder that sizes its buffer by `len()` loses the last byte). -/
example : Sjis.SubDomain [0xCE, 0xA9, 0x32] ∧ sjisSub.enc [0xCE, 0xA9, 0x32] = some [0x83, 0xB6, 0x32] :=
  ⟨⟨[0x3A9, 0x32], by decide, by decide⟩, by decide⟩

/-- The empty archive: an 8-byte header padded to 32 bytes, parsed back as no files. -/
theorem pack_roundtrip_empty (c : Codec) :
    serialize c [] = .ok (beBytes 4 MAGIC ++ List.replicate 28 0) ∧
    parse c (beBytes 4 MAGIC ++ List.replicate 28 0) = .ok [] := by
  constructor <;> rfl

/-- The parser never panics, whatever the bytes (wrong magic, truncation, over-declared counts,
sizes or addresses): it returns files or an error. -/
theorem pack_parse_total (c : Codec) (raw : Bytes) : parse c raw ≠ .panic :=
  parse_total c raw

/-- A wrong magic number is an error (fix D7), for every continuation of the image. -/
theorem pack_bad_magic (c : Codec) (raw : Bytes) (v : Nat) (h : word raw 0 4 = some v)
    (hv : v ≠ Spec.Pack.MAGIC) : parse c raw = .err .BadMagic := by
  unfold parse
  have hv' : v ≠ MAGIC := hv
  simp [readBe_eq, h, hv']

/-- A codec that is faithful on NUL-free strings (bytes are their own encoding). -/
private def idCodec : Codec := ⟨some, id⟩

private theorem idCodec_faithful : idCodec.Faithful (fun s => (0 : UInt8) ∉ s) :=
  fun s hs => ⟨s, rfl, hs, rfl⟩

/-- The hypotheses are satisfiable by a non-trivial object: three files (one empty, one longer
than a padding block), and the library's image of them parses back. -/
example :
    let m : Files := [(bs ['a'], [1, 2, 3]), (bs ['b', 'c'], []), (bs ['d'], List.replicate 33 7)]
    (∀ kv ∈ m, (0 : UInt8) ∉ kv.1) ∧ DistinctNames m ∧ m.length ≤ 65535 ∧
    (∃ img, serialize idCodec m = .ok img ∧ img.length = 160 ∧ ConformsPack idCodec.enc img m ∧
      Aligned32 img 3 ∧ parse idCodec img = .ok m) := by
  intro m
  have henc : ∀ kv ∈ m, (idCodec.enc kv.1).isSome := fun _ _ => rfl
  have hl : (imageOf idCodec m).length = 160 := by decide +kernel
  have hc := imageOf_conforms m henc (by decide) (by omega)
  exact ⟨by decide, by decide, by decide, _, serialize_eq m henc, hl, hc.1, hc.2,
    pack_parse_conforming idCodec_faithful hc.1 (by decide) (by decide)⟩

/-- A foreign image the library never writes (bodies before names, a shared body, an empty body
pointing into the header, garbage in the ignored words) conforms and is parsed. -/
example :
    let m : Files := [(bs ['x'], [9, 8]), (bs ['y'], [9, 8]), (bs ['z'], [])]
    let img : Bytes := beBytes 4 MAGIC ++ beBytes 2 3 ++ [0xAA, 0xBB]
      ++ [1, 2, 3, 4] ++ beBytes 4 58 ++ beBytes 4 56 ++ beBytes 4 2
      ++ [5, 6, 7, 8] ++ beBytes 4 60 ++ beBytes 4 56 ++ beBytes 4 2
      ++ [0, 0, 0, 0] ++ beBytes 4 62 ++ beBytes 4 3 ++ beBytes 4 0
      ++ [9, 8] ++ bs ['x'] ++ [0] ++ bs ['y'] ++ [0] ++ bs ['z'] ++ [0]
    ConformsPack idCodec.enc img m ∧ parse idCodec img = .ok m := by
  intro m img
  have hc : ConformsPack idCodec.enc img m := by decide +kernel
  exact ⟨hc, pack_parse_conforming idCodec_faithful hc (by decide) (by decide)⟩

end Mila.Props.C15
