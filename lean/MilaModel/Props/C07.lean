/-
C07 — Text archive is an insertion-ordered map with symmetric newline escaping.

Model: `Mila.TextArchive` (`src/text_archive.rs:33-54,117-146`; `IndexMap` = ordered association
list, `str::replace` = `strReplace`).  Specification: `Mila.Spec.TextMap` (history-defined `birth`,
`lastSet`, `KeysSpec`, `escape`/`unescape`, written from the property statement).  The theorems
quantify over **all histories** of `set_message` / `delete_message` / `set_title` / `has_message` /
`get_message` calls starting from `TextArchive::new`, all keys and all messages (byte strings).
The tie model ↔ Rust is the `text` correspondence stream (`c07.*` cases).
-/
import MilaModel.Model.TextArchive
import MilaModel.Spec.TextMap
import MilaModel.Lemmas.TextEscape
import MilaModel.Lemmas.TextIndexMap

namespace Mila.Props.C07
open Mila Mila.TextArchive Mila.Spec.TextMap
open Mila.Lemmas.TextEscape Mila.Lemmas.TextIndexMap

/-- **Key order.** After any history the archive lists exactly the surviving keys, in order of
first insertion of their current incarnation (strictly increasing `birth`): re-setting keeps the
place, deleting never reorders the others, re-adding appends. -/
theorem keys_sorted_by_birth (f : TextFormat) (e : Endian) (h : List Op) :
    KeysSpec h ((run f e h).entries.map (·.1)) := by
  rw [run_eq]
  exact ⟨mem_keysOf_entriesR h.reverse, entriesR_sorted h.reverse⟩

private theorem keysSpec_nodup {h : List Op} {l : List Bytes} (hl : KeysSpec h l) : l.Nodup :=
  hl.2.imp Before.ne

/-- `KeysSpec` determines the key list: any two lists satisfying it for the same history are equal
(so `keys_sorted_by_birth` pins the order down completely). -/
theorem keysSpec_unique (h : List Op) (l₁ l₂ : List Bytes) (h₁ : KeysSpec h l₁) (h₂ : KeysSpec h l₂) :
    l₁ = l₂ := by
  -- two lists with the same members, both sorted by an antisymmetric relation
  apply List.Perm.eq_of_pairwise (le := Before h.reverse) _ h₁.2 h₂.2
  · rw [List.perm_ext_iff_of_nodup (keysSpec_nodup h₁) (keysSpec_nodup h₂)]
    intro a
    rw [h₁.1 a, h₂.1 a]
  · rintro a b _ _ ⟨i, j, hi, hj, hij⟩ ⟨i', j', hi', hj', hij'⟩
    rw [hi] at hj'; rw [hj] at hi'
    cases hj'; cases hi'; omega

/-- **Stored value.** The value stored under a key is the last message set for its current
incarnation with every escape sequence turned into a newline; absent keys have none. -/
theorem stored_value_spec (f : TextFormat) (e : Endian) (h : List Op) (k : Bytes) :
    imGet (run f e h).entries k = valueOf h k := by
  rw [run_eq]
  exact imGet_entriesR h.reverse k

/-- `has_message` answers whether the key is alive after the history. -/
theorem has_message_spec (f : TextFormat) (e : Endian) (h : List Op) (k : Bytes) :
    (run f e h).hasMessage k = (birth h k).isSome := by
  rw [hasMessage, ← imGet_isSome, stored_value_spec, valueOf, Option.isSome_map, birth,
    birthR_isSome_eq_lastSetR, lastSet]

/-- **Lookup.** `get_message` returns the stored value with every newline escaped. -/
theorem get_message_spec (f : TextFormat) (e : Endian) (h : List Op) (k : Bytes) :
    (run f e h).getMessage k = lookupOf h k := by
  rw [getMessage, lookupOf, stored_value_spec, funext escape_eq]

/-- The model's `str::replace` instances are the specification's escaping functions, and they are
symmetric on stored messages: a stored message has no escape sequence, and unescaping the escaped
form of such a message gives it back. -/
theorem escaping_symmetric (m : Bytes) :
    TextArchive.unescape m = Spec.TextMap.unescape m ∧
    TextArchive.escape m = Spec.TextMap.escape m ∧
    NoSeq (Spec.TextMap.unescape m) ∧
    (NoSeq m → Spec.TextMap.unescape (Spec.TextMap.escape m) = m) :=
  ⟨unescape_eq m, escape_eq m, noSeq_unescape m, unescape_escape m⟩

/-- Every value stored after a history is free of escape sequences. -/
theorem stored_noSeq (f : TextFormat) (e : Endian) (h : List Op) (k v : Bytes)
    (hv : imGet (run f e h).entries k = some v) : NoSeq v := by
  rw [stored_value_spec, valueOf] at hv
  obtain ⟨m, _, rfl⟩ := Option.map_eq_some_iff.mp hv
  exact noSeq_unescape m

/-- **Storing a looked-up message back changes nothing** (entries: keys, order and values). -/
theorem set_get_id (f : TextFormat) (e : Endian) (h : List Op) (k m : Bytes)
    (hg : (run f e h).getMessage k = some m) :
    ((run f e h).setMessage k m).entries = (run f e h).entries := by
  obtain ⟨v, hv, rfl⟩ := Option.map_eq_some_iff.mp hg
  -- unescaping the escaped stored value gives the stored value, which is already there
  have hu : TextArchive.unescape (TextArchive.escape v) = v := by
    rw [escape_eq, unescape_eq]
    exact unescape_escape v (stored_noSeq f e h k v hv)
  simp only [setMessage, hu]
  exact imSet_same _ k v (keysSpec_nodup (keys_sorted_by_birth f e h)) hv

/-- **Dirty flag**: clear on a new archive, and after a history it is set iff some `set_message`
happened (in particular it is set after any set; deletions and title changes do not set it). -/
theorem dirty_spec (f : TextFormat) (e : Endian) (h : List Op) :
    (TextArchive.new f e).isDirty = false ∧ (run f e h).isDirty = anySet h := by
  rw [run_eq]
  exact ⟨rfl, rfl⟩

/-- The dirty flag is set right after any `set_message`. -/
theorem dirty_after_set (t : TextArchive) (k m : Bytes) : (t.setMessage k m).isDirty = true := rfl

/-- The dirty flag is clear on a parsed archive (`from_archive`, hence `from_bytes`). -/
theorem dirty_parsed (c : Codec) (a : BinArchive) (f : TextFormat) (e : Endian) (t : TextArchive)
    (h : TextArchive.fromArchive c a f e = .ok t) : t.isDirty = false := by
  unfold TextArchive.fromArchive at h
  -- the only `.ok` results are `{ new f e with … }`, and `new` has cleared the flag
  fun_cases TextArchive.fromArchive c a f e <;> simp only [*] at h
  all_goals cases h
  all_goals rfl

/-- The same through the other parsing constructor: `from_bytes` = `BinArchive::from_bytes` then
`from_archive`, so its result is not dirty either — whatever public constructor produced the archive. -/
theorem dirty_parsed_bytes (c : Codec) (raw : Bytes) (f : TextFormat) (e : Endian) (t : TextArchive)
    (h : TextArchive.fromBytes c raw f e = .ok t) : t.isDirty = false := by
  unfold TextArchive.fromBytes at h
  split at h
  · exact dirty_parsed c _ f e t h
  · cases h
  · cases h

/-- The title is the last one set. -/
theorem title_spec (f : TextFormat) (e : Endian) (h : List Op) : (run f e h).getTitle = titleOf h := by
  rw [run_eq]
  rfl

/-- The test the oracle runs on the implementation's key list (`Spec.TextMap.checkKeys`) accepts
only lists that satisfy the declarative specification `KeysSpec` — i.e., with `keysSpec_unique`,
only the one list `keys_sorted_by_birth` describes. -/
theorem checkKeys_sound (h : List Op) (keys : List Bytes) (hc : checkKeys h keys = true) :
    KeysSpec h keys := by
  simp only [checkKeys, Bool.and_eq_true, List.all_eq_true, Bool.or_eq_true, Bool.not_eq_true',
    List.contains_eq_mem, decide_eq_true_eq] at hc
  obtain ⟨⟨hall, hinc⟩, hcov⟩ := hc
  refine ⟨fun k => ⟨hall k, fun hb => ?_⟩, ?_⟩
  · -- a key with a birth occurs in the history, so the coverage test has looked for it
    obtain ⟨op, hop, hk⟩ := birthR_mem_ops hb
    have hm : k ∈ h.filterMap opKey := List.mem_filterMap.mpr ⟨op, List.mem_reverse.mp hop, hk⟩
    rcases hcov k (List.mem_eraseDups.mpr hm) with hn | hin
    · rw [hn] at hb; cases hb
    · exact hin
  · refine (List.pairwise_filterMap.mp (strictlyIncreasing_pairwise _ hinc)).imp_of_mem ?_
    intro a b ha hb hab
    obtain ⟨i, hi⟩ := Option.isSome_iff_exists.mp (hall a ha)
    obtain ⟨j, hj⟩ := Option.isSome_iff_exists.mp (hall b hb)
    exact ⟨i, j, hi, hj, hab i hi j hj⟩

/-- A concrete history: set a, set b, re-set a (keeps first place), delete a, re-add a (appended). -/
example :
    let h : List Op := [.set [97] [120], .set [98] [92, 110], .set [97] [121], .del [97], .set [97] [10]]
    (run .unicode .little h).entries = [([98], [10]), ([97], [10])] ∧
    (run .unicode .little h).getMessage [98] = some [92, 110] ∧
    birth h [98] = some 1 ∧ birth h [97] = some 4 := by decide

end Mila.Props.C07
