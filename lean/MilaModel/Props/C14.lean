/-
C14 — Path localisation inserts the game's language marker and nothing else.

The model (`Mila.Localize`) transcribes `src/localization.rs`; the specification (`Mila.Spec.Loc`) is
written from the property statement.  The tie model <-> Rust is the `loc` correspondence stream.
-/
import MilaModel.Model.Localize
import MilaModel.Spec.LocalizeTable
import MilaModel.Lemmas.Split

namespace Mila.Props.C14
open Mila Mila.Localize

def mg : Spec.Loc.Game → Game
  | .FE9 => .FE9 | .FE10 => .FE10 | .FE13 => .FE13 | .FE14 => .FE14 | .FE15 => .FE15
def ml : Spec.Loc.Language → Language
  | .EnglishNA => .EnglishNA | .EnglishEU => .EnglishEU | .Japanese => .Japanese
  | .Spanish => .Spanish | .French => .French | .Italian => .Italian | .German => .German
  | .Dutch => .Dutch

/-- The code's inserted text is `/` followed by the specification's marker, for all 5 × 8 pairs
(a finite table, decided by evaluation in the kernel). -/
theorem marker_table : ∀ g lang,
    infixStr (mg g) (ml lang) = (Spec.Loc.langDir g lang).map (fun m => slash :: m) := by
  intro g lang; cases g <;> cases lang <;> rfl

/-- `Path::parent` / `Path::file_name` on a relative path of plain components. -/
theorem pathSplit_plain (dir : List Bytes) (l : Bytes)
    (hd : ∀ c ∈ dir, Spec.Loc.Plain c) (hl : Spec.Loc.Plain l) :
    pathSplit (joinWith slash (dir ++ [l])) = ⟨some (joinWith slash dir), some l⟩ :=
  pathSplit_plain_skipped dir l [] hd hl (by simp)

/-- The same with one trailing slash (`d/l/`): std ignores the empty last piece. -/
theorem pathSplit_plain_trailing (dir : List Bytes) (l : Bytes)
    (hd : ∀ c ∈ dir, Spec.Loc.Plain c) (hl : Spec.Loc.Plain l) :
    pathSplit (joinWith slash (dir ++ [l]) ++ [slash]) = ⟨some (joinWith slash dir), some l⟩ := by
  rw [← joinWith_append_singleton slash (dir ++ [l]) [] (by simp), List.append_assoc]
  exact pathSplit_plain_skipped dir l [[]] hd hl (by simp)

/-- Every game of the specification has a real localizer: split the path, insert the marker. -/
private theorem localize_mg (g : Spec.Loc.Game) (lang : Language) (path : Bytes) :
    localize (mg g) lang path =
      match parentAndFileName path with
      | .err e => .err e
      | .panic => .panic
      | .ok (dir, file) =>
        match infixStr (mg g) lang with
        | none => .err .Unsupported
        | some m => .ok (dir ++ m ++ file) := by
  cases g <;> rfl

/-- **Main clause.** For every supported game and language and every relative path of plain
components, the model returns exactly the specified path: directory part kept, marker inserted,
last component kept; a single component gets the marker appended; unsupported pairs are
`UnsupportedLanguage` errors. -/
theorem localize_plain (g : Spec.Loc.Game) (lang : Spec.Loc.Language) (dir : List Bytes) (l : Bytes)
    (hd : ∀ c ∈ dir, Spec.Loc.Plain c) (hl : Spec.Loc.Plain l) :
    localize (mg g) (ml lang) (joinWith slash (dir ++ [l])) =
      match Spec.Loc.expected g lang dir l with
      | some e => .ok e
      | none => .err .Unsupported := by
  rw [localize_mg, marker_table, parentAndFileName, pathSplit_plain dir l hd hl]
  cases dir with
  | nil => cases hm : Spec.Loc.langDir g lang <;> simp [Spec.Loc.expected, hm, joinWith]
  | cons p ps =>
    have hj : joinWith slash (p :: ps) ≠ [] := by
      obtain ⟨x, xs, rfl⟩ := List.exists_cons_of_ne_nil (hd p (by simp)).1
      intro e
      have := joinWith_head slash x xs ps
      simp [e] at this
    cases hm : Spec.Loc.langDir g lang <;> simp [Spec.Loc.expected, hm, hj]

/-- A trailing slash changes nothing (`localize (p ++ "/") = localize p` on the domain). -/
theorem localize_plain_trailing (g : Spec.Loc.Game) (lang : Spec.Loc.Language) (dir : List Bytes) (l : Bytes)
    (hd : ∀ c ∈ dir, Spec.Loc.Plain c) (hl : Spec.Loc.Plain l) :
    localize (mg g) (ml lang) (joinWith slash (dir ++ [l]) ++ [slash]) =
      localize (mg g) (ml lang) (joinWith slash (dir ++ [l])) := by
  rw [localize_mg, localize_mg, parentAndFileName, parentAndFileName, pathSplit_plain dir l hd hl,
    pathSplit_plain_trailing dir l hd hl]

/-- Degenerate paths are errors (never a panic): the empty path and `/` have no parent,
`..` and `d/..` have no final component. -/
theorem localize_degenerate (g : Spec.Loc.Game) (lang : Spec.Loc.Language) :
    localize (mg g) (ml lang) [] = .err .MissingParent ∧
    localize (mg g) (ml lang) [slash] = .err .MissingParent ∧
    localize (mg g) (ml lang) [dot, dot] = .err .MissingFileName ∧
    localize (mg g) (ml lang) [0x61, slash, dot, dot] = .err .MissingFileName := by
  refine ⟨?_, ?_, ?_, ?_⟩ <;> rw [localize_mg] <;> rfl

/-- The localiser never panics, whatever the path bytes. -/
theorem localize_total (g : Game) (lang : Language) (path : Bytes) :
    localize g lang path ≠ .panic := by
  have hp : parentAndFileName path ≠ .panic := by
    unfold parentAndFileName
    dsimp only
    split
    · nofun
    · split
      · nofun
      · split <;> nofun
  unfold localize
  split
  · nofun
  · split
    · nofun
    · rename_i h; exact absurd h hp
    · split <;> nofun

/-- Non-vacuity: a concrete three-component path meets the hypotheses, and the theorem's
right-hand side evaluates to the FE14 language directory form. -/
example : (∀ c ∈ [bs ['m'], bs ['a', ' ', 'b']], Spec.Loc.Plain c) ∧ Spec.Loc.Plain (bs ['G', '.', 'l', 'z']) ∧
    localize .FE14 .EnglishNA (bs ['m', '/', 'a', ' ', 'b', '/', 'G', '.', 'l', 'z']) =
      .ok (bs ['m', '/', 'a', ' ', 'b', '/', '@', 'E', '/', 'G', '.', 'l', 'z']) := by
  refine ⟨by decide, by decide, by decide⟩

end Mila.Props.C14
