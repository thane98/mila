/-
C09 — LZ13 compression emits a valid wrapped LZ11 stream that expands to the input; compression
is total.

Model: `Mila.Lz.compress13` (src/lz13.rs:173-241), `lz13Header` (`calculate_lz13_header`,
:111-163), `occurrence` (:7-38); library decoder model `decompress13`.  Specification:
`Mila.Spec.Lz` (`Encodes true`, `Valid true`, `expand`).  The proof is that of C08, which is generic
in the format (`Post`, `post_correct`).
-/
import MilaModel.Model.Lz
import MilaModel.Spec.LzStream
import MilaModel.Lemmas.LzFormat

namespace Mila.Props.C09
open Mila Mila.Lz Mila.Spec.Lz

/-- For every input shorter than 16 MiB (the statement also covers the empty input, whose stream
uses the 32-bit extended length word) LZ13 compression returns a 4-byte `0x13` wrapper followed by
a well-formed LZ11 stream whose header carries the input length, whose back-references (any of
the three length forms) have displacement 1–4096 inside the data already produced, with nothing
left over, and whose expansion by the independent reference expander is the input. -/
theorem lz13_correct (x : BA) (hx : x.size < 2 ^ 24) :
    ∃ (out : BA) (l0 l1 l2 : UInt8) (s : Bytes) (toks : List Tok), (compress13 x).1 = .ok out ∧
      out.toList = 0x13 :: l0 :: l1 :: l2 :: s ∧
      Encodes true x.size toks s ∧ Valid true toks ∧ expand toks = x := by
  obtain ⟨l0, l1, l2, _, _, hh, hp⟩ := compress13_post x
  obtain ⟨out, toks, body, h1, h2, h3, v, e⟩ := post_correct hp lenOk11
  rw [hh hx] at h2
  exact ⟨out, l0, l1, l2, header true x.size ++ body, toks, h1, by simpa using h2,
    ⟨body, rfl, h3⟩, v, e⟩

/-- The library's own decompressor (LZ13 entry point and `CompressionFormat::LZ13`) gives back the
input. -/
theorem lz13_roundtrip (x : BA) (hx : x.size < 2 ^ 24) :
    ∃ out, (compress13 x).1 = .ok out ∧ decompress13 out.toList = .ok x ∧
      Format.decompress .lz13 out.toList = .ok x := by
  obtain ⟨out, h1, h2⟩ := format_roundtrip .lz13 x hx
  exact ⟨out, h1, h2, h2⟩

/-- For every input, the empty one included, compression returns `Ok` — it neither fails nor
panics — and the buffer it reserves up front is at most `13 + n + n/8` bytes. -/
theorem lz13_total (x : BA) :
    (∃ out, (compress13 x).1 = .ok out) ∧ (compress13 x).2 ≤ 13 + x.size + x.size / 8 := by
  refine ⟨format_compress_ok .lz13 x, ?_⟩
  obtain ⟨l, hl⟩ := lz13Header_ok x
  unfold compress13
  simp only [hl, reserve13]
  omega

/-- `calculate_lz13_header` never returns its error (nor panics). -/
theorem lz13_header_total (x : BA) : ∃ l, lz13Header x = .ok l := lz13Header_ok x

/-- Consequently LZ13 compression is injective below 16 MiB. -/
theorem lz13_injective (x y : BA) (hx : x.size < 2 ^ 24) (hy : y.size < 2 ^ 24)
    (h : (compress13 x).1 = (compress13 y).1) : x = y := by
  obtain ⟨ox, hx1, hx2, _⟩ := lz13_roundtrip x hx
  obtain ⟨oy, hy1, hy2, _⟩ := lz13_roundtrip y hy
  exact injective_of_roundtrip (c := fun x => (compress13 x).1) ⟨ox, hx1, hx2⟩ ⟨oy, hy1, hy2⟩ h

example : ∃ out, (compress13 #[7, 7, 7, 7, 7, 7, 7, 7, 7, 7, 7, 7, 7, 7, 7, 7, 7, 7, 7, 7, 7, 9]).1 = .ok out ∧
    decompress13 out.toList = .ok #[7, 7, 7, 7, 7, 7, 7, 7, 7, 7, 7, 7, 7, 7, 7, 7, 7, 7, 7, 7, 7, 9] :=
  let ⟨out, h1, h2, _⟩ := lz13_roundtrip _ (by decide)
  ⟨out, h1, h2⟩
example : ∃ out, (compress13 #[]).1 = .ok out ∧ decompress13 out.toList = .ok #[] :=
  let ⟨out, h1, h2, _⟩ := lz13_roundtrip #[] (by decide)
  ⟨out, h1, h2⟩

end Mila.Props.C09
