/-
C17 — Animation-set file round trip, size formula, idempotent re-serialisation.

Model: `Mila.Aset` (`MilaModel/Model/Aset.lean`, a transcription of `src/aset.rs`).
Specification: `Mila.Spec.Aset` (domain `WF`, size formula `dataSize`).
Layering: `from_archive` is proved correct on *every* archive that shows the declarative layout of
the file (`Aset.Layout`, stated with lookups only); `serialize` builds an archive with that layout;
the layout is carried along `SameContent` — the conclusion of property C01 (bin-archive
serialize → parse), which enters the file-level theorems as the named hypothesis `BinRoundTrip`.
-/
import MilaModel.Lemmas.AsetBuild
import MilaModel.Lemmas.ComposeBin
import MilaModel.Spec.Aset
import MilaModel.Lemmas.SjisSub

namespace Mila.Props.C17
open Mila Mila.Aset Mila.Layered BinArchive

/-- The property's quantifier: 257 clip names, every set has 257 entries. -/
abbrev WF (f : ASetFile) : Prop := Spec.Aset.WF f.animClipTable f.sets

/-- The layered format at a well-formed file: `from_archive` reports the file itself. -/
private theorem format {f : ASetFile} (h : WF f) {D : Str → Prop} (hD : Compose.AsetStrsIn D f) :
    Format D (build f) (serialize · f) fromArchive f (Layout f) where
  built := build_layout f (fun s hs => List.ne_nil_of_length_eq_add_one (h.2 s hs))
    (by rw [h.1]; omega) hD
  ser_eq := fun c a ha => by unfold Aset.serialize; rw [ha]
  read_eq := fun b hl => by rw [fromArchive_layout f b h.1 hl, sets_map_setVal f.sets h.2]
  transfer := fun _ _ => Layout.transfer
  little := fun _ => Layout.little

/-- `serialize` never fails before the bin-archive stage, on the whole domain. -/
theorem aset_build_ok (f : ASetFile) (h : WF f) : ∃ a, build f = .ok a :=
  (format h (.trivial f)).build_ok

/-- **Round trip on the un-serialised archive**: reading the archive that `serialize` builds
returns the file — meta, all 257 clip names, every set with its label and all 256 slots. -/
theorem aset_roundtrip (f : ASetFile) (h : WF f) :
    ∃ a, build f = .ok a ∧ fromArchive a = .ok f :=
  (format h (.trivial f)).roundtrip

/-- Consequently building the archive is injective on well-formed files: two different animation
set files never build the same archive. -/
theorem aset_build_injective (f g : ASetFile) (hf : WF f) (hg : WF g) (h : build f = build g) :
    f = g :=
  (format hf (.trivial f)).injective (format hg (.trivial g)) h

/-- **Layering**: `from_archive` depends only on the archive's content — any archive with the same
content as the one `serialize` built (same size, raw bytes outside string cells, string per cell,
label bucket per address) is read to the same value. -/
theorem aset_layering (f : ASetFile) (h : WF f) {a b : BinArchive} (ha : build f = .ok a)
    (hab : SameContent a b) : fromArchive b = fromArchive a :=
  (format h (.trivial f)).layering ha hab

/-- **File-level round trip**, given the bin-archive round trip (property C01) for the archive
that `serialize` builds: `from_archive(from_bytes(serialize(f))) = f`. -/
theorem aset_file_roundtrip (c : Codec) (f : ASetFile) (h : WF f)
    (hC01 : ∀ a, build f = .ok a → BinRoundTrip c a) :
    ∀ bytes, serialize c f = .ok bytes →
      ∃ b, BinArchive.parse c .little bytes = .ok b ∧ fromArchive b = .ok f :=
  (format h (.trivial f)).file_roundtrip c hC01

/-- **Size formula**: the data section has `12 + 4·257 + Σ_sets 4·(1 + nonEmptyGroups + presentSlots)`
bytes — an absent slot costs nothing, a group without a present slot costs nothing. -/
theorem aset_size (f : ASetFile) (h : WF f) {a : BinArchive} (ha : build f = .ok a) :
    a.size = Spec.Aset.dataSize f.sets := by
  obtain ⟨hl, _⟩ := (format h (.trivial f)).of_build ha
  rw [hl.size]
  unfold Spec.Aset.dataSize
  simp only [fileCells, headerCells, List.length_append, List.length_cons, List.length_nil,
    List.length_map, h.1]
  rw [← setsCells_cost]; omega

/-- The size survives the bin-archive round trip (C01 preserves the size). -/
theorem aset_file_size (c : Codec) (f : ASetFile) (h : WF f)
    (hC01 : ∀ a, build f = .ok a → BinRoundTrip c a) :
    ∀ bytes, serialize c f = .ok bytes →
      ∃ b, BinArchive.parse c .little bytes = .ok b ∧ b.size = Spec.Aset.dataSize f.sets := by
  intro bytes hs
  obtain ⟨a, b, ha, hb, hab, _⟩ := (format h (.trivial f)).file c hC01 bytes hs
  exact ⟨b, hb, by rw [hab.size]; exact aset_size f h ha⟩

/-- The group-wise count of the specification is the plain count of present names among
entries 1..256 of the set. -/
theorem presentSlots_eq_presentNames (s : List (Option Str)) (h : s.length = 257) :
    Spec.Aset.presentSlots s = Spec.Aset.presentNames s := by
  have inner : ∀ (P : Nat → Bool) (g : Nat), (List.range 32).countP (fun j => P (32 * g + j + 1))
      = ((List.range' 0 32).map (fun j => g * 32 + j + 1)).countP P := by
    intro P g
    rw [List.countP_map, List.range_eq_range']
    apply List.countP_congr
    intro j _
    simp [Nat.mul_comm]
  have hidx : ∀ (P : Nat → Bool), ((List.range 8).map (fun g =>
      (List.range 32).countP (fun j => P (32 * g + j + 1)))).sum = (List.range' 1 256).countP P := by
    intro P
    simp only [inner]
    rw [sum_countP_flatMap, List.range_eq_range', slotIndex_eq]
  unfold Spec.Aset.presentSlots Spec.Aset.groupSlots
  refine (hidx (Spec.Aset.slotPresent s)).trans ?_
  unfold Spec.Aset.presentNames
  have h2 : s.drop 1 = (List.range' 1 256).map (fun k => (s[k]?).join) := by
    have := congrArg (List.drop 1) (setVal_eq s h)
    simpa [setVal, groupsVals_eq, slotIndex_eq] using this.symm
  rw [h2, List.countP_map]
  congr 1
  funext k
  rw [← present_eq_spec, present_eq]
  rfl

/-- **Idempotence**: re-serialising the value re-read from the serialised file gives the same
bytes (given C01 for the built archive). -/
theorem aset_idempotent (c : Codec) (f : ASetFile) (h : WF f)
    (hC01 : ∀ a, build f = .ok a → BinRoundTrip c a) :
    ∀ bytes, serialize c f = .ok bytes →
      ∃ b f', BinArchive.parse c .little bytes = .ok b ∧ fromArchive b = .ok f'
        ∧ serialize c f' = .ok bytes := by
  intro bytes hs
  obtain ⟨b, hb, hf⟩ := aset_file_roundtrip c f h hC01 bytes hs
  exact ⟨b, f, hb, hf, hs⟩

/-- A non-trivial file of the domain: labelled set with a sparse group, an unlabelled empty set. -/
def sample : ASetFile :=
  ⟨some (bs ['m']), List.replicate 256 none ++ [some (bs ['c'])],
   [some (bs ['L']) :: (List.replicate 31 none ++ [some []] ++ List.replicate 224 none),
    List.replicate 257 none]⟩

example : WF sample := by decide +kernel

private theorem countP_range_getElem? {α : Type} (p : Option α → Bool) (hp : p none = false) :
    ∀ (n : Nat) (l : List α),
      (List.range n).countP (fun j => p l[j]?) = (l.take n).countP (fun x => p (some x)) := by
  intro n
  induction n with
  | zero => intro l; rfl
  | succ n ih =>
    intro l
    rw [List.range_succ_eq_map, List.countP_cons, List.countP_map]
    cases l with
    | nil => simp [hp]
    | cons x l => simpa [Function.comp_def, List.countP_cons] using ih l

private theorem groupSlots_eq (s : Spec.Aset.ASet) (g : Nat) :
    Spec.Aset.groupSlots s g = ((s.drop (32 * g + 1)).take 32).countP (·.isSome) := by
  have := countP_range_getElem?
    (fun o : Option Spec.Aset.Name => match o with | some (some _) => true | _ => false) rfl 32
    (s.drop (32 * g + 1))
  simp only [List.getElem?_drop, Nat.add_right_comm _ 1] at this
  refine this.trans (List.countP_congr fun x _ => ?_)
  cases x <;> rfl

/-- The size formula uses the sets only through their per-group counts. -/
private theorem dataSize_of_groupSlots (gs : Spec.Aset.ASet → Nat → Nat)
    (h : Spec.Aset.groupSlots = gs) (sets : List Spec.Aset.ASet) :
    Spec.Aset.dataSize sets = 12 + 4 * 257 + (sets.map fun s =>
      4 * (1 + (List.range 8).countP (fun g => gs s g ≠ 0) + ((List.range 8).map (gs s)).sum)).sum := by
  subst h; rfl

-- Evaluated through `groupSlots_eq`: the 256 indexed lookups per set of `groupSlots` are slow in
-- the kernel, eight 32-entry chunks are not.
example : Spec.Aset.dataSize sample.sets = 12 + 4 * 257 + 4 * 3 + 4 * 1 :=
  (dataSize_of_groupSlots _ (funext fun s => funext (groupSlots_eq s)) _).trans (by decide +kernel)

/-- `SameContent` is satisfiable (reflexivity), so the layering hypothesis is not vacuous. -/
example (a : BinArchive) : SameContent a a := SameContent.refl a

/-! ### composition with C01: the hypothesis `hC01` discharged

`BinRoundTrip c a` is a theorem for every archive `serialize` builds: the built archive is in
C01's quantifier (one string per 4-aligned cell inside the data, no pointers or pending c-strings,
one non-empty label bucket per address `≤ size`: `Compose.Tidy` and `Plain` from `build_layout`), so
`C01.parse_serialize` applies.  What remains are the property's own domain hypotheses: the codec is
faithful on `D`, every string of the file (and the reserved table label) is in `D`
(`Compose.AsetStrsIn`), the 257-entry shapes (`WF`), and the 32-bit format's size limit on the image
(`Ser.imageSize`: header, data, tables and text section of the built archive). -/

/-- **C01 instantiated**: the bin-archive round trip holds of every archive `serialize` builds. -/
theorem aset_bin_roundtrip (c : Codec) (D : Str → Prop) (hf : c.Faithful D) (f : ASetFile) (h : WF f)
    (hD : Compose.AsetStrsIn D f) :
    ∀ a, build f = .ok a → Ser.imageSize c a < 2 ^ 32 → BinRoundTrip c a :=
  (format h hD).bin_roundtrip c hf

/-- `serialize` succeeds on the whole domain, with an image of the prescribed size. -/
theorem aset_serialize_ok (c : Codec) (D : Str → Prop) (hf : c.Faithful D) (f : ASetFile) (h : WF f)
    (hD : Compose.AsetStrsIn D f) (small : ∀ a, build f = .ok a → Ser.imageSize c a < 2 ^ 32) :
    ∃ a bytes, build f = .ok a ∧ serialize c f = .ok bytes ∧ bytes.length = Ser.imageSize c a :=
  (format h hD).serialize_ok c hf small

/-- **File-level round trip, unconditional**: `serialize` succeeds and
`from_archive(from_bytes(serialize(f))) = f`. -/
theorem aset_file_roundtrip_unconditional (c : Codec) (D : Str → Prop) (hf : c.Faithful D)
    (f : ASetFile) (h : WF f) (hD : Compose.AsetStrsIn D f)
    (small : ∀ a, build f = .ok a → Ser.imageSize c a < 2 ^ 32) :
    ∃ bytes b, serialize c f = .ok bytes ∧ BinArchive.parse c .little bytes = .ok b ∧
      fromArchive b = .ok f :=
  (format h hD).file_roundtrip_unconditional c hf small

/-- **Size of the re-parsed file, unconditional.** -/
theorem aset_file_size_unconditional (c : Codec) (D : Str → Prop) (hf : c.Faithful D)
    (f : ASetFile) (h : WF f) (hD : Compose.AsetStrsIn D f)
    (small : ∀ a, build f = .ok a → Ser.imageSize c a < 2 ^ 32) :
    ∃ bytes b, serialize c f = .ok bytes ∧ BinArchive.parse c .little bytes = .ok b ∧
      b.size = Spec.Aset.dataSize f.sets := by
  obtain ⟨_, bytes, _, hs, _⟩ := aset_serialize_ok c D hf f h hD small
  obtain ⟨b, hb, hsz⟩ := aset_file_size c f h
    (fun a ha => aset_bin_roundtrip c D hf f h hD a ha (small a ha)) bytes hs
  exact ⟨bytes, b, hs, hb, hsz⟩

/-- **Idempotence, unconditional**: re-serialising the value re-read from the serialised file gives
the same bytes. -/
theorem aset_idempotent_unconditional (c : Codec) (D : Str → Prop) (hf : c.Faithful D)
    (f : ASetFile) (h : WF f) (hD : Compose.AsetStrsIn D f)
    (small : ∀ a, build f = .ok a → Ser.imageSize c a < 2 ^ 32) :
    ∃ bytes b f', serialize c f = .ok bytes ∧ BinArchive.parse c .little bytes = .ok b ∧
      fromArchive b = .ok f' ∧ serialize c f' = .ok bytes := by
  obtain ⟨bytes, b, hs, hb, hfa⟩ := aset_file_roundtrip_unconditional c D hf f h hD small
  exact ⟨bytes, b, f, hs, hb, hfa, hs⟩

/-- The file-level round trip with no assumption about the text encoding left (`Mila.sjisSub_faithful`). -/
theorem aset_file_roundtrip_sjisSub (f : ASetFile) (h : WF f) (hD : Compose.AsetStrsIn Sjis.SubDomain f)
    (small : ∀ a, build f = .ok a → Ser.imageSize sjisSub a < 2 ^ 32) :
    ∃ bytes b, serialize sjisSub f = .ok bytes ∧ BinArchive.parse sjisSub .little bytes = .ok b ∧
      fromArchive b = .ok f :=
  aset_file_roundtrip_unconditional sjisSub Sjis.SubDomain Mila.sjisSub_faithful f h hD small

/-- Non-vacuity of the composed theorems: the identity codec is faithful on NUL-free strings and
every string of `sample` (and the table label) is NUL-free. -/
example : (⟨fun s => some s, id⟩ : Codec).Faithful (fun s => (0 : UInt8) ∉ s) ∧
    Compose.AsetStrsIn (fun s => (0 : UInt8) ∉ s) sample := by
  refine ⟨fun s hs => ⟨s, rfl, hs, rfl⟩, ⟨by decide, ?_, ?_, ?_⟩⟩
  · intro s hs; cases hs; decide
  · intro s hs
    simp only [sample, List.mem_append, List.mem_replicate, List.mem_singleton] at hs
    rcases hs with ⟨_, hs⟩ | hs
    · cases hs
    · cases hs; decide
  · intro set hset s hs
    simp only [sample, List.mem_cons, List.mem_nil_iff, or_false] at hset
    rcases hset with rfl | rfl
    · simp only [List.mem_cons, List.mem_append, List.mem_replicate, List.mem_nil_iff, or_false,
        Option.some.injEq, reduceCtorEq, and_false, false_or, or_false] at hs
      rcases hs with rfl | rfl <;> decide
    · simp only [List.mem_replicate] at hs
      cases hs.2

/-- All hypotheses of the composed theorems together, the size limit included, hold of a concrete
file (meta string, one empty set) over the identity codec; the image size is evaluated in the kernel. -/
example :
    let c : Codec := ⟨fun s => some s, id⟩
    let D : Str → Prop := fun s => (0 : UInt8) ∉ s
    let f : ASetFile := ⟨some (bs ['m']), List.replicate 257 none, [List.replicate 257 none]⟩
    c.Faithful D ∧ WF f ∧ Compose.AsetStrsIn D f ∧
      ∀ a, build f = .ok a → Ser.imageSize c a < 2 ^ 32 := by
  refine ⟨fun s hs => ⟨s, rfl, hs, rfl⟩, by decide +kernel, ⟨by decide, ?_, ?_, ?_⟩, ?_⟩
  · intro s hs; cases hs; decide
  · intro s hs; simp only [List.mem_replicate] at hs; cases hs.2
  · intro set hset s hs
    simp only [List.mem_singleton] at hset
    subst hset
    simp only [List.mem_replicate] at hs; cases hs.2
  · intro a ha
    -- a set without names is written as one zero word whatever its length (`writeSet_empty`), so
    -- the archive is that of the file with a one-entry set: its flag loops are cheap to evaluate
    have e := build_congr ⟨some (bs ['m']), List.replicate 257 none, [List.replicate 257 none]⟩
      ⟨some (bs ['m']), List.replicate 257 none, [List.replicate 1 none]⟩ rfl rfl
      (funext fun w => by simp only [writeSets, writeSet_empty])
    have h : (match build ⟨some (bs ['m']), List.replicate 257 none, [List.replicate 1 none]⟩ with
        | .ok a => decide (Ser.imageSize ⟨fun s => some s, id⟩ a < 2 ^ 32)
        | _ => false) = true := by decide +kernel
    rw [← e, ha] at h
    simpa using h

end Mila.Props.C17
