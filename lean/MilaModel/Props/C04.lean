/-
C04 — Cell access is bounds-safe, endian-correct and local; stream readers / writers are the
positional calls at their cursor plus the cursor law.

Model: `Model/BinArchive.lean`, `Model/BinStreams.lean`, op machine `Model/BinOps.lean`
(transcriptions of `src/bin_archive.rs`, `src/bin_streams.rs`).  Spec: `Spec/Cell.lean`.
`usize` is 64-bit: `a.size < 2^64` (`2^63` in `cell_add_in_range`) is the only hypothesis — a `Vec`
never exceeds `isize::MAX`; addresses and lengths are arbitrary naturals, so every 64-bit value is
covered.
-/
import MilaModel.Lemmas.BinSys

namespace Mila.Props.C04
open Mila BinArchive Spec.Cell

/-- How the bit pattern `n` of a `t`-typed cell is read. -/
def interp (t : Ty) (n : Nat) : Int := if t.signed then signedOf (8 * t.width) n else (n : Int)

/-- The values of type `t`. -/
def InDomain (t : Ty) (v : Int) : Prop :=
  if t.signed then -(2 : Int) ^ (8 * t.width - 1) ≤ v ∧ v < (2 : Int) ^ (8 * t.width - 1)
  else 0 ≤ v ∧ v < (2 : Int) ^ (8 * t.width)

/-- Every typed read is: inside the data ⇒ the value stored there in the archive's endianness;
otherwise `OutOfBoundsAddress`.  Never a panic, for any address. -/
theorem readTy_eq (a : BinArchive) (t : Ty) (addr : Nat) :
    a.readTy t addr = if InRange a.size addr t.width
      then .ok (interp t (valueOf a.endian (slice a.data addr t.width))) else .err .OutOfBounds := by
  rw [readTy_eq_readUInt, readUInt_eq, Res.map_guard]; rfl

theorem read_ok_iff (a : BinArchive) (t : Ty) (addr : Nat) :
    (a.readTy t addr).isOk = true ↔ InRange a.size addr t.width := by
  rw [readTy_eq]; exact Res.guard_isOk

theorem read_err (a : BinArchive) (t : Ty) (addr : Nat) (h : ¬ InRange a.size addr t.width) :
    a.readTy t addr = .err .OutOfBounds := by
  rw [readTy_eq, if_neg h]

/-- `read_bytes` succeeds iff `addr < size ∧ addr + len ≤ size` (for `len ≥ 1`: the whole
non-empty range lies inside), and then returns exactly those bytes (`Mila.readBytes_eq`). -/
theorem readBytes_eq (a : BinArchive) (addr len : Nat) (hs : a.size < 2 ^ 64) :
    a.readBytes addr len = if InRange a.size addr len then .ok (slice a.data addr len)
      else .err .OutOfBounds := Mila.readBytes_eq a addr len hs

theorem readBytes_ok_iff (a : BinArchive) (addr len : Nat) (hs : a.size < 2 ^ 64) :
    (a.readBytes addr len).isOk = true ↔ InRange a.size addr len := by
  rw [readBytes_eq a addr len hs]; exact Res.guard_isOk

/-- In the unchecked additions `address + w` of the typed accessors (`bin_archive.rs:421…`) the
sum is only evaluated after `address < size` has been established, so it cannot leave the machine
range: the result is the same in both arithmetic profiles. -/
theorem cell_add_in_range (a : BinArchive) (addr w : Nat) (hw : w ≤ 4) (hs : a.size < 2 ^ 63)
    (h : validateAddress addr a.size false = .ok ()) : add64 .checked addr w = .ok (addr + w)
      ∧ add64 .wrapping addr w = .ok (addr + w) := by
  have : addr + w < 2 ^ 64 := by have := lt_of_validateAddress_false h; omega
  simp [add64, addN, this]

/-- Every typed write is: inside the data ⇒ the addressed bytes become the endian layout of the
value's bit pattern and nothing else changes; otherwise `OutOfBoundsAddress` (and no new state). -/
theorem writeTy_eq (a : BinArchive) (t : Ty) (addr : Nat) (v : Int) :
    a.writeTy t addr v = if InRange a.size addr t.width
      then .ok { a with data := patch a.data addr (layout a.endian t.width (ofSigned (8 * t.width) v)) }
      else .err .OutOfBounds := by
  rw [writeTy_eq_writeUInt, writeUInt_eq, enc_layout]

theorem write_ok_iff (a : BinArchive) (t : Ty) (addr : Nat) (v : Int) :
    (a.writeTy t addr v).isOk = true ↔ InRange a.size addr t.width := by
  rw [writeTy_eq]; exact Res.guard_isOk

theorem write_err (a : BinArchive) (t : Ty) (addr : Nat) (v : Int) (h : ¬ InRange a.size addr t.width) :
    a.writeTy t addr v = .err .OutOfBounds := by
  rw [writeTy_eq, if_neg h]

/-- `write_local`: a successful write changes exactly the addressed bytes, to the endian layout
of the value, and leaves all five annotation collections and the endianness alone. -/
theorem write_local (a a' : BinArchive) (t : Ty) (addr : Nat) (v : Int) (h : a.writeTy t addr v = .ok a') :
    Replaced a.data a'.data addr (layout a.endian t.width (ofSigned (8 * t.width) v))
    ∧ a'.text = a.text ∧ a'.pointers = a.pointers ∧ a'.labels = a.labels
    ∧ a'.cstrings = a.cstrings ∧ a'.endian = a.endian := by
  obtain ⟨hr, rfl⟩ := Res.guard_eq_ok.mp (writeTy_eq a t addr v ▸ h)
  exact ⟨patch_replaced _ _ _ (by rw [layout_length]; exact hr.2), rfl, rfl, rfl, rfl, rfl⟩

private theorem valueOf_layout (e : Endian) (w n : Nat) : valueOf e (layout e w n) = n % 256 ^ w := by
  rw [← enc_layout, ← dec_eq_valueOf, dec_enc]

/-- `decode ∘ encode = id` on the values of each type (u8/u16/u32/i8/i16/i32, f32 as bits). -/
theorem decode_encode (e : Endian) (t : Ty) (v : Int) (hv : InDomain t v) :
    interp t (valueOf e (layout e t.width (ofSigned (8 * t.width) v))) = v := by
  have hlt : ofSigned (8 * t.width) v < 256 ^ t.width := by
    rw [show 256 = 2 ^ 8 from rfl, ← Nat.pow_mul]; exact ofSigned_lt _ v
  rw [valueOf_layout, Nat.mod_eq_of_lt hlt]
  unfold interp
  unfold InDomain at hv
  by_cases hs : t.signed = true
  · rw [if_pos hs] at hv ⊢
    exact toSigned_ofSigned _ (by cases t <;> decide) v hv
  · rw [if_neg hs] at hv ⊢
    obtain ⟨n, rfl⟩ := Int.eq_ofNat_of_zero_le hv.1
    rw [ofSigned_nat _ n (by exact_mod_cast hv.2)]

/-- `read_write`: the matching read returns the written value unchanged (both endiannesses, every
type; NaN payloads are just bit patterns of `f32`). -/
theorem read_write (a a' : BinArchive) (t : Ty) (addr : Nat) (v : Int) (hv : InDomain t v)
    (h : a.writeTy t addr v = .ok a') : a'.readTy t addr = .ok v := by
  obtain ⟨hr, rfl⟩ := Res.guard_eq_ok.mp (writeTy_eq a t addr v ▸ h)
  have hl := layout_length a.endian t.width (ofSigned (8 * t.width) v)
  have hfit : addr + (layout a.endian t.width (ofSigned (8 * t.width) v)).length ≤ a.data.length := by
    rw [hl]; exact hr.2
  have hs := slice_patch a.data addr _ hfit
  rw [hl] at hs
  rw [readTy_eq, if_pos (by simpa [BinArchive.size, length_patch _ _ _ hfit] using hr)]
  simp only [hs, decode_encode _ _ _ hv]

/-- The same facts for raw byte strings (`write_bytes` / `read_bytes`). -/
theorem writeBytes_eq (a : BinArchive) (addr : Nat) (v : Bytes) :
    a.writeBytes addr v = if InRange a.size addr v.length then .ok { a with data := patch a.data addr v }
      else .err .OutOfBounds := Mila.writeBytes_eq a addr v

theorem writeBytes_local (a a' : BinArchive) (addr : Nat) (v : Bytes) (h : a.writeBytes addr v = .ok a') :
    Replaced a.data a'.data addr v ∧ a'.text = a.text ∧ a'.pointers = a.pointers ∧ a'.labels = a.labels
    ∧ a'.cstrings = a.cstrings ∧ a'.endian = a.endian := by
  obtain ⟨hr, rfl⟩ := Res.guard_eq_ok.mp (writeBytes_eq a addr v ▸ h)
  exact ⟨patch_replaced _ _ _ hr.2, rfl, rfl, rfl, rfl, rfl⟩

theorem readBytes_writeBytes (a a' : BinArchive) (addr : Nat) (v : Bytes) (hs : a.size < 2 ^ 64)
    (h : a.writeBytes addr v = .ok a') : a'.readBytes addr v.length = .ok v := by
  obtain ⟨hr, rfl⟩ := Res.guard_eq_ok.mp (writeBytes_eq a addr v ▸ h)
  have hlen : (patch a.data addr v).length = a.data.length := length_patch _ _ _ hr.2
  rw [readBytes_eq _ _ _ (by simpa [BinArchive.size, hlen] using hs),
    if_pos (by simpa [BinArchive.size, hlen] using hr), slice_patch a.data addr v hr.2]

/-! ### never a panic; a failed access changes nothing -/

/-- No call of the machine panics. -/
theorem no_panic (s : Sys) (op : Op) : (s.step op).2 ≠ .panic := by
  by_cases hop : op = .rSjis
  · subst hop
    simp only [Sys.step, Reader.readSjisRawFull]
    split <;> nofun
  · exact (Sys.step_safe s op hop).1

/-- An access that returns an error leaves archive and cursors exactly as they were. -/
theorem err_unchanged (s : Sys) (op : Op) (e : Err) (hop : op ≠ .rSjis)
    (h : (s.step op).2 = .err e) : (s.step op).1 = s := (Sys.step_safe s op hop).2 e h

/-! ### annotation accessors never disturb raw bytes -/

/-- The annotation calls: string / pointer / label / c-string reads, writes and deletes, positional
and through the streams. -/
def isAnnot : Op → Bool
  | .readStr _ | .readPtr _ | .readLabels _ | .readCStr _ | .writeStr _ _ | .writePtr _ _
  | .writeCStr _ _ | .writeLabel _ _ | .writeLabels _ _ | .delStr _ | .delPtr _ | .delLabels _
  | .delLabel _ _ | .find _ | .ptrDests | .getLabels | .rStr | .rPtr | .rCStr | .rLabel _ | .rLabels
  | .wStr _ | .wPtr _ | .wCStr _ | .wLabel _ => true
  | _ => false

theorem annot_no_bytes (s : Sys) (op : Op) (h : isAnnot op = true) :
    (s.step op).1.arch.data = s.arch.data := by
  refine Sys.arch_ind (P := fun a => a.data = s.arch.data) s op rfl (fun r a' hr hc => ?_)
  cases op <;> cases hr
  case allocEnd | wAllocEnd | truncate | allocate | deallocate | wAlloc | write | wWrite | writeBytes
     | wBytes => cases h
  case writeStr | wStr => rw [writeString_eq] at hc; exact Res.guard_ok_prop (P := (·.data = s.arch.data)) rfl hc
  case writePtr | wPtr => rw [writePointer_eq] at hc; exact Res.guard_ok_prop (P := (·.data = s.arch.data)) rfl hc
  case writeCStr | wCStr => rw [writeCString_eq] at hc; exact Res.guard_ok_prop (P := (·.data = s.arch.data)) rfl hc
  case writeLabel | wLabel => rw [writeLabel_eq] at hc; exact Res.guard_ok_prop (P := (·.data = s.arch.data)) rfl hc
  case writeLabels => rw [writeLabels_eq] at hc; exact Res.guard_ok_prop (P := (·.data = s.arch.data)) rfl hc
  case delStr => rw [deleteString_eq] at hc; exact Res.guard_ok_prop (P := (·.data = s.arch.data)) rfl hc
  case delPtr => rw [deletePointer_eq] at hc; exact Res.guard_ok_prop (P := (·.data = s.arch.data)) rfl hc
  case delLabels => rw [deleteLabels_eq] at hc; exact Res.guard_ok_prop (P := (·.data = s.arch.data)) rfl hc
  case delLabel =>
    rw [deleteLabel_eq] at hc
    split at hc
    · split at hc
      · exact Res.guard_ok_prop (P := (·.data = s.arch.data)) rfl hc
      · cases hc; rfl
    · cases hc

/-! ### stream readers / writers = positional calls + cursor law -/

/-- The positional call a stream call performs at the current cursors, with the distance the
reader / writer cursor advances when it succeeds.  (Empty `read_bytes` / `write_bytes` succeed at
any cursor and have no positional twin; `seek` / `skip` / `tell` only concern the cursor.) -/
def twin (s : Sys) : Op → Option (Op × Nat × Nat)
  | .rRead t => some (.read t s.rpos, t.width, 0)
  | .rBytes n => if n = 0 then none else some (.readBytes s.rpos n, n, 0)
  | .rStr => some (.readStr s.rpos, 4, 0)
  | .rPtr => some (.readPtr s.rpos, 4, 0)
  | .rCStr => some (.readCStr s.rpos, 4, 0)
  | .rLabels => some (.readLabels s.rpos, 0, 0)
  | .wWrite t v => some (.write t s.wpos v, 0, t.width)
  | .wBytes v => if v.isEmpty then none else some (.writeBytes s.wpos v, 0, v.length)
  | .wStr v => some (.writeStr s.wpos v, 0, 4)
  | .wPtr v => some (.writePtr s.wpos v, 0, 4)
  | .wCStr v => some (.writeCStr s.wpos v, 0, 4)
  | .wLabel v => some (.writeLabel s.wpos v, 0, 0)
  | .wAlloc n ge => if s.wpos = s.arch.size then some (.allocEnd n, 0, 0) else some (.allocate s.wpos n ge, 0, 0)
  | .wAllocEnd n => some (.allocEnd n, 0, 0)
  | _ => none

/-- A stream call executed as its positional twin followed by the cursor law. -/
def stepTwin (s : Sys) (op : Op) : Sys × Res Out :=
  match twin s op with
  | some (p, dr, dw) =>
    match s.step p with
    | (s', .ok o) => ({ s' with rpos := s.rpos + dr, wpos := s.wpos + dw }, .ok o)
    | (_, r) => (s, r)
  | none => s.step op

private theorem wr_map (s : Sys) (r : Res BinArchive) (k : Nat) :
    s.wr (r.map (fun a => (⟨a, s.wpos + k⟩ : Writer))) =
      match s.upd r with
      | (s', .ok o) => ({ s' with rpos := s.rpos + 0, wpos := s.wpos + k }, .ok o)
      | (_, r') => (s, r') := by
  cases r <;> rfl

private theorem rd_map {α : Type} (s : Sys) (r : Res α) (k : Nat) (f : α → Out) :
    s.rd (r.map (fun v => (v, (⟨s.rpos + k⟩ : Reader)))) f =
      match s.qry r f with
      | (s', .ok o) => ({ s' with rpos := s.rpos + k, wpos := s.wpos + 0 }, .ok o)
      | (_, r') => (s, r') := by
  cases r <;> rfl

/-- `stream_eq_positional`, one step: every reader / writer call returns what the positional call
at the cursor returns, changes the archive in the same way, advances its cursor by the width of the
access when it succeeds and leaves everything alone when it fails; label calls (`rLabels`,
`wLabel`) and `allocate` never move a cursor. -/
theorem stream_eq_positional (s : Sys) (op : Op) : s.step op = stepTwin s op := by
  unfold stepTwin
  cases op
  case rRead | rStr | rPtr | rCStr =>
    simp only [twin, Sys.step, Reader.readTy_eq, Reader.readString, Reader.readPointer,
      Reader.readCStringRaw, Reader.step_eq_map]
    exact rd_map s _ _ _
  case rBytes =>
    simp only [twin, Sys.step_rBytes]
    split
    · rfl
    · exact rd_map s _ _ _
  case rLabels =>
    simp only [twin, Sys.step, Reader.readLabels, Sys.reader, Sys.qry]
    cases s.arch.readLabels s.rpos <;> rfl
  case wWrite | wStr | wPtr | wCStr | wLabel =>
    simp only [twin, Sys.step, Writer.writeTy_eq, Writer.writeString, Writer.writePointer,
      Writer.writeCString, Writer.writeLabel, Writer.step_eq_map]
    exact wr_map s _ _
  case wBytes =>
    simp only [twin, Sys.step_wBytes]
    split
    · rfl
    · exact wr_map s _ _
  case wAlloc n ge =>
    by_cases h : s.wpos = s.arch.size
    · simp only [twin, if_pos h]
      simp only [Sys.step, Writer.allocate_eq_map, Sys.writer, if_pos h]
      exact wr_map s (.ok _) 0
    · simp only [twin, if_neg h]
      simp only [Sys.step, Writer.allocate_eq_map, Sys.writer, if_neg h]
      exact wr_map s _ 0
  all_goals rfl

/-- A label read through the reader never moves the cursor or changes the archive, whatever the
index. -/
theorem reader_label_no_move (s : Sys) (i : Nat) : (s.step (.rLabel i)).1 = s := rfl

def runTwin (s : Sys) : List Op → Sys × List (Res Out)
  | [] => (s, [])
  | op :: ops =>
    let (s', r) := stepTwin s op
    let (s'', rs) := runTwin s' ops
    (s'', r :: rs)

/-- Lifted over histories: any interleaving of stream and positional calls computes the same
states and the same results as the history in which every stream call is replaced by its
positional twin at the then-current cursor plus the cursor law. -/
theorem history_stream_eq_positional (s : Sys) (ops : List Op) : s.run ops = runTwin s ops := by
  induction ops generalizing s with
  | nil => rfl
  | cons op ops ih => simp only [Sys.run, runTwin, stream_eq_positional, ih]

/-! ### non-vacuity -/

/-- A 4-byte big-endian archive: `write_i16(1, -2)` is in range, so it succeeds (next example), the
value lies in the domain of `i16` (the hypothesis of `read_write`), and what is stored at 1..2 is
`FF FE`. -/
example : ((BinArchive.new .big).allocateAtEnd 4).size = 4 ∧ InRange 4 1 2 ∧ InDomain .i16 (-2)
    ∧ layout .big 2 (ofSigned 16 (-2)) = [0xFF, 0xFE] ∧ layout .little 2 (ofSigned 16 (-2)) = [0xFE, 0xFF] := by
  refine ⟨rfl, by decide, by simp [InDomain, Ty.signed, Ty.width], by decide, by decide⟩

example : (((BinArchive.new .big).allocateAtEnd 4).writeTy .i16 1 (-2)).isOk = true :=
  (write_ok_iff _ _ _ _).mpr (by decide)

example : ¬ InRange 8 4 (2 ^ 64 - 3) ∧ ¬ InRange 8 (2 ^ 64 - 1) 1 := by decide

end Mila.Props.C04
