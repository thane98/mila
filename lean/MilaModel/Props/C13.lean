/-
C13 — Layered filesystem listings are the sorted, de-duplicated union of layers.

Model: `Mila.LayeredFs` (`FileSystemLayer::list/subdirectories`, the
`glob` model on the pattern family, the `HashSet` + `sort()` union of `LayeredFilesystem::list`).
Specification: `Mila.Spec.Overlay` (`IsListing`, `IsSubdirListing`, `Pat`).  Directories range over
the specification's domain `locOf d = some q`; patterns over the family `Pat` with literal
extension / directory texts (`Pat.Ok`: no glob metacharacters, no `/`).
-/
import MilaModel.Lemmas.FsList
import MilaModel.Lemmas.FsOps
import MilaModel.Props.C14

namespace Mila.Props.C13
open Mila Mila.LayeredFs Mila.Spec.Overlay

/-- **list_spec.** Listing a domain directory with a pattern of the family succeeds and returns
exactly the entries found under that directory in any layer (files and directories, recursively
for no pattern / `**/…`, those matching otherwise), as layer-relative paths in strictly ascending
byte order — hence without duplicates. -/
theorem list_spec (fs : Fs) {d : Bytes} {q : Loc} (h : locOf d = some q)
    (pt : Pat) (hok : Pat.Ok pt) (pat : Option Bytes) (hp : pat ∈ pt.glob) :
    ∃ r, fs.list d pat false = .ok r ∧ IsListing (walksOf fs) q.comps pt r := by
  obtain ⟨g, hc, hm⟩ := family_compiles pt hok pat hp
  unfold Fs.list Fs.actualPath IsListing walksOf
  simp only [Bool.false_eq_true, if_false]
  exact sortedUnion_of_layers fs.layers (fun l => l.list d pat) (fun w => entriesUnder w q.comps pt)
    (fun l _ => layer_list_eq l h pt pat g hc hm)

/-- **subdirs_spec.** `subdirectories` returns exactly the immediate child directories present in
any layer, sorted and duplicate-free. -/
theorem subdirs_spec (fs : Fs) {d : Bytes} {q : Loc} (h : locOf d = some q) :
    ∃ r, fs.subdirectories d false = .ok r ∧ IsSubdirListing (walksOf fs) q.comps r := by
  unfold Fs.subdirectories Fs.actualPath IsSubdirListing walksOf
  simp only [Bool.false_eq_true, if_false]
  exact sortedUnion_of_layers fs.layers (fun l => l.subdirectories d) (fun w => childDirs w q.comps)
    (fun l _ => layer_subdirs_eq l h)

/-- The specification determines the result: two strictly ascending enumerations of the same
union are equal.  In particular the iteration order of the `HashSet` cannot show. -/
theorem listing_unique (per : List (List Path)) (r1 r2 : List Bytes)
    (h1 : IsSortedUnion per r1) (h2 : IsSortedUnion per r2) : r1 = r2 :=
  Fs.strict_unique r1 r2 h1.1 h2.1 (fun x => (h1.2 x).trans (h2.2 x).symm)

/-- **missing_empty.** A path that no layer has lists as empty, whatever the pattern string; a path
that is a directory in no layer (missing, or a regular file) lists as empty for the family. -/
theorem missing_empty (fs : Fs) {d : Bytes} {q : Loc} (h : locOf d = some q) :
    ((∀ w ∈ walksOf fs, w.at q.comps = none) →
      (∀ pat, fs.list d pat false = .ok []) ∧ fs.subdirectories d false = .ok []) ∧
    ((∀ w ∈ walksOf fs, w.at q.comps ≠ some .dir) →
      (∀ pt, Pat.Ok pt → ∀ pat ∈ pt.glob, fs.list d pat false = .ok []) ∧
      fs.subdirectories d false = .ok []) := by
  -- a union loop over layers that all answer `[]`
  have hcollect : ∀ f : Layer → Res (List Bytes), (∀ l ∈ fs.layers, f l = .ok []) →
      (match Fs.collect f fs.layers with
        | .ok all => (.ok (Fs.sortSet all) : Res (List Bytes))
        | .err e => .err e
        | .panic => .panic) = .ok [] := by
    intro f hf
    rw [collect_ok f (fun _ => []) fs.layers hf, List.flatMap_eq_nil_iff.mpr fun _ _ => rfl]
    rfl
  have hw : ∀ l ∈ fs.layers, walkOf l ∈ walksOf fs := fun l hl => List.mem_map.mpr ⟨l, hl, rfl⟩
  constructor
  · intro hmiss
    have hstat : ∀ l ∈ fs.layers, l.stat d = none := by
      intro l hl
      have := hmiss _ (hw l hl)
      rw [at_walkOf, Option.map_eq_none_iff] at this
      rw [stat_of_locOf l h, this]
    exact ⟨fun pat => hcollect _ fun l hl => by simp [Layer.list, hstat l hl],
      hcollect _ fun l hl => by simp [Layer.subdirectories, hstat l hl]⟩
  · intro hnd
    refine ⟨fun pt hok pat hp => ?_, hcollect _ fun l hl => ?_⟩
    · obtain ⟨g, hc, hm⟩ := family_compiles pt hok pat hp
      exact hcollect _ fun l hl => by
        rw [layer_list_eq l h pt pat g hc hm]; simp [entriesUnder, hnd _ (hw l hl)]
    · rw [layer_subdirs_eq l h]; simp [childDirs, hnd _ (hw l hl)]

/-- Layer contents inside the domain: every stored path consists of plain components. -/
def PlainLayer (l : Layer) : Prop := ∀ e ∈ l, e.1 ≠ [] ∧ ∀ c ∈ e.1, Spec.Loc.Plain c

private theorem exists_of_entry (fs : Fs) (hwf : ∀ l ∈ fs.layers, PlainLayer l)
    (l : Layer) (hl : l ∈ fs.layers) (e : Comps × Node) (he : e ∈ l) :
    fs.exists_ (showPath e.1) false = .ok true := by
  obtain ⟨hne, hpl⟩ := hwf l hl e he
  rw [showPath_eq_render, exists_walks fs (locOf_render e.1 hne hpl)]
  congr 1
  refine List.any_eq_true.mpr ⟨walkOf l, List.mem_map.mpr ⟨l, hl, rfl⟩, ?_⟩
  have hs := Layer.get_isSome_of_mem he hne
  unfold Walk.existsAt Walk.fileAt Walk.dirAt
  rw [at_walkOf]
  cases hg : l.get e.1 with
  | none => simp [hg] at hs
  | some n => cases n <;> simp [kindOf]

/-- **listed_exists.** Every path returned by `list` or `subdirectories` exists according to the
filesystem's own `exists` query (layers inside the domain, see `plain_history`). -/
theorem listed_exists (fs : Fs) (hwf : ∀ l ∈ fs.layers, PlainLayer l)
    {d : Bytes} {q : Loc} (h : locOf d = some q) :
    (∀ pt, Pat.Ok pt → ∀ pat ∈ pt.glob, ∀ r, fs.list d pat false = .ok r →
      ∀ x ∈ r, fs.exists_ x false = .ok true) ∧
    (∀ r, fs.subdirectories d false = .ok r → ∀ x ∈ r, fs.exists_ x false = .ok true) := by
  constructor
  · intro pt hok pat hp r hr x hx
    obtain ⟨r', hr', hl⟩ := list_spec fs h pt hok pat hp
    cases hr.symm.trans hr'
    obtain ⟨l, hl', c, hc, rfl⟩ := sortedUnion_mem hl hx
    obtain ⟨e, he, rfl⟩ := mem_entriesUnder hc
    exact exists_of_entry fs hwf l hl' e he
  · intro r hr x hx
    obtain ⟨r', hr', hl⟩ := subdirs_spec fs h
    cases hr.symm.trans hr'
    obtain ⟨l, hl', c, hc, rfl⟩ := sortedUnion_mem hl hx
    obtain ⟨e, he, rfl, _⟩ := mem_childDirs hc
    exact exists_of_entry fs hwf l hl' e he

/-- The operation stays inside the domain: its (localised) path is a path string of the domain. -/
def InDomain {E : Env} (fs : Fs) (op : C12.Op E) : Prop :=
  ∀ a, fs.actualPath (opPath op).1 (opPath op).2 = .ok a → ∃ q, locOf a = some q

private theorem plain_next {fs fs' : Fs} {p : Bytes} {loc : Bool} (h : fs.Next p loc fs')
    (hwf : ∀ l ∈ fs.layers, PlainLayer l)
    (hdom : ∀ a, fs.actualPath p loc = .ok a → ∃ q, locOf a = some q) : ∀ l ∈ fs'.layers, PlainLayer l :=
  h.forall_layers hwf fun a top t' ha hpl hu e he => by
    obtain ⟨q, hq⟩ := hdom a ha
    rcases hu.mem he with h | ⟨h1, h2⟩
    · exact hpl e h
    · rw [parsePath_of_locOf hq] at h2
      exact ⟨h1, fun y hy => (locOf_spec hq).1 y (h2.subset hy)⟩

/-- **Domain invariant over histories.** Starting from layers whose stored paths consist of plain
components, any history of writes / directory creations / archive writes on paths of the domain
keeps every layer inside the domain — so `list_spec`, `listed_exists` … apply after arbitrary
prior writes. -/
theorem plain_history (E : Env) (fs : Fs) (ops : List (C12.Op E))
    (hwf : ∀ l ∈ fs.layers, PlainLayer l) (hdom : ∀ op ∈ ops, InDomain fs op) :
    ∀ l ∈ (C12.run E fs ops).layers, PlainLayer l := by
  induction ops generalizing fs with
  | nil => exact hwf
  | cons op rest ih =>
    have hn := step_next E fs op
    obtain ⟨_, _, hcfg, hlang⟩ := hn.frame
    refine ih (C12.step E fs op) (plain_next hn hwf (hdom op (by simp))) fun o ho a ha => ?_
    exact hdom o (by simp [ho]) a ((Fs.actualPath_congr hcfg hlang _ _).symm.trans ha)

/-- **list_localized.** A localized listing (of entries or of sub-directories) is the unlocalised
listing of the localised directory; a directory the localizer rejects is an error. -/
theorem list_localized (fs : Fs) (d : Bytes) (pat : Option Bytes) :
    fs.list d pat true =
      (match Localize.localize fs.cfg.localizer fs.lang d with
       | .ok a => fs.list a pat false
       | .err e => .err e
       | .panic => .panic) ∧
    fs.subdirectories d true =
      (match Localize.localize fs.cfg.localizer fs.lang d with
       | .ok a => fs.subdirectories a false
       | .err e => .err e
       | .panic => .panic) := by
  constructor
  · unfold Fs.list Fs.actualPath
    cases Localize.localize fs.cfg.localizer fs.lang d <;> simp
  · unfold Fs.subdirectories Fs.actualPath
    cases Localize.localize fs.cfg.localizer fs.lang d <;> simp

/-- With the C14 table: for every supported game and language, the localized listing of a
directory `dir/…/l` of plain components is the unlocalised listing of `dir/… ++ marker ++ l`
(of `l ++ marker` for a single component). -/
theorem list_localized_table (fs : Fs) (g : Spec.Loc.Game) (lang : Spec.Loc.Language)
    (hg : fs.cfg.localizer = C14.mg g) (hl : fs.lang = C14.ml lang)
    (dir : List Bytes) (l : Bytes) (hd : ∀ c ∈ dir, Spec.Loc.Plain c) (hlp : Spec.Loc.Plain l)
    (pat : Option Bytes) :
    fs.list (joinWith Localize.slash (dir ++ [l])) pat true =
      (match Spec.Loc.expected g lang dir l with
       | some qs => fs.list qs pat false
       | none => .err .Unsupported) := by
  rw [(list_localized fs _ pat).1, hg, hl, C14.localize_plain g lang dir l hd hlp]
  cases Spec.Loc.expected g lang dir l <;> rfl

/-- Three layers: `d` is a directory in layers 0 and 1 and a *file* in layer 2; `d/x.txt` exists
in two layers; a hidden directory; an empty directory. -/
private def demoFs : Fs :=
  ⟨[[([bs ['d']], .dir), ([bs ['d'], bs ['x', '.', 't', 'x', 't']], .file [1]),
     ([bs ['d'], bs ['.', 'h']], .dir), ([bs ['d'], bs ['.', 'h'], bs ['y', '.', 't', 'x', 't']], .file [])],
    [([bs ['d']], .dir), ([bs ['d'], bs ['x', '.', 't', 'x', 't']], .file [2]), ([bs ['d'], bs ['a']], .file [3]),
     ([bs ['e']], .dir)],
    [([bs ['d']], .file [4])]],
   .FE14, ⟨.lz13, .FE14, .little, .unicode⟩, .EnglishNA⟩

example : (∀ l ∈ demoFs.layers, PlainLayer l) ∧ locOf (bs ['d']) = some ⟨[bs ['d']], false⟩ ∧
    Pat.Ok (.allExt (bs ['t', 'x', 't'])) := by
  refine ⟨?_, by decide, ?_⟩
  · show ∀ l ∈ demoFs.layers, ∀ e ∈ l, e.1 ≠ [] ∧ ∀ c ∈ e.1, Spec.Loc.Plain c
    decide
  · show ∀ b ∈ bs ['t', 'x', 't'], b ≠ star ∧ b ≠ 0x3F ∧ b ≠ 0x5B ∧ b ≠ 0x5D ∧ b ≠ Localize.slash
    decide

/-- `list_spec` in action: union of two layers (the third has `d` as a file), duplicates merged,
ascending byte order (`.` < `a` < `x`), hidden entries included; `**/*.txt` and sub-directories. -/
example :
    demoFs.list (bs ['d']) none false =
      .ok [bs ['d', '/', '.', 'h'], bs ['d', '/', '.', 'h', '/', 'y', '.', 't', 'x', 't'], bs ['d', '/', 'a'],
           bs ['d', '/', 'x', '.', 't', 'x', 't']] ∧
    demoFs.list (bs ['d']) (some (bs ['*', '*', '/', '*', '.', 't', 'x', 't'])) false =
      .ok [bs ['d', '/', '.', 'h', '/', 'y', '.', 't', 'x', 't'], bs ['d', '/', 'x', '.', 't', 'x', 't']] ∧
    demoFs.subdirectories (bs ['d']) false = .ok [bs ['d', '/', '.', 'h']] ∧
    demoFs.list (bs ['n', 'o']) none false = .ok [] ∧
    demoFs.list (bs ['e']) none false = .ok [] := by
  exact ⟨rfl, rfl, rfl, rfl, rfl⟩

/-- **listed_reachable.** A listing is computed from the flat map of each layer (entries with the
directory as a prefix).  On layers satisfying the tree invariant (`C12.history_closed`: every
reachable state) each listed path is reached by the kernel's path walk in the layer it comes from —
as a directory for `subdirectories` — which is what `glob`'s descent through real directories
yields.  Without the invariant this fails (see the `example` below). -/
theorem listed_reachable (fs : Fs) (hwf : ∀ l ∈ fs.layers, l.Closed)
    {d : Bytes} {q : Loc} (h : locOf d = some q) :
    (∀ pt, Pat.Ok pt → ∀ pat ∈ pt.glob, ∀ r, fs.list d pat false = .ok r →
      ∀ x ∈ r, ∃ w ∈ walksOf fs, ∃ c, x = showPath c ∧ (w.posixAt c).isSome) ∧
    (∀ r, fs.subdirectories d false = .ok r →
      ∀ x ∈ r, ∃ w ∈ walksOf fs, ∃ c, x = showPath c ∧ w.posixAt c = some .dir) := by
  constructor
  · intro pt hok pat hp r hr x hx
    obtain ⟨r', hr', hl⟩ := list_spec fs h pt hok pat hp
    cases hr.symm.trans hr'
    obtain ⟨l, hl', c, hc, rfl⟩ := sortedUnion_mem hl hx
    obtain ⟨e, he, rfl⟩ := mem_entriesUnder hc
    refine ⟨walkOf l, List.mem_map.mpr ⟨l, hl', rfl⟩, e.1, rfl, ?_⟩
    rw [posixAt_walkOf (hwf l hl'), at_walkOf, Option.isSome_map]
    exact Layer.get_isSome_of_mem he ((hwf l hl').noRoot e he)
  · intro r hr x hx
    obtain ⟨r', hr', hl⟩ := subdirs_spec fs h
    cases hr.symm.trans hr'
    obtain ⟨l, hl', c, hc, rfl⟩ := sortedUnion_mem hl hx
    obtain ⟨e, he, rfl, hdir⟩ := mem_childDirs hc
    refine ⟨walkOf l, List.mem_map.mpr ⟨l, hl', rfl⟩, e.1, rfl, ?_⟩
    rw [posixAt_walkOf (hwf l hl'), at_walkOf,
      Layer.get_of_mem (hwf l hl').nodup he ((hwf l hl').noRoot e he)]
    simp [hdir]

/-- A layer that is not a tree: a regular file `a` with a stale entry `a/b` below it. -/
private def brokenFs : Fs :=
  ⟨[[([bs ['a']], .file [1]), ([bs ['a'], bs ['b']], .file [2])]],
   .FE14, ⟨.lz13, .FE14, .little, .unicode⟩, .EnglishNA⟩

/-- **The dependence is real**: on the non-closed layer the root listing contains `a/b`, which no
path walk reaches (its parent `a` is a regular file) — a real `glob` would not return it. -/
example :
    brokenFs.list [] none false = .ok [bs ['a'], bs ['a', '/', 'b']] ∧
    (walkOf [([bs ['a']], .file [1]), ([bs ['a'], bs ['b']], .file [2])]).posixAt [bs ['a'], bs ['b']] = none := by
  refine ⟨by decide, by decide⟩

end Mila.Props.C13
