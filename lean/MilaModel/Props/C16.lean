/-
C16 — 3DS arc extraction returns exactly the packed files; the four error branches.

Property theorems only (the lemmas are in `MilaModel/Lemmas/Arc.lean`, those of the composition
with C01 in `MilaModel/Lemmas/ComposeArc.lean`).  The model
(`Mila.Arc`) transcribes `src/arc.rs` on top of the bin-archive model; the specification
(`Mila.Spec.Arc`) is written from the property statement and speaks about the *content* of a bin
archive: `ArcLemmas.contentOf a` = (data bytes, string cells, (address, label) pairs).

The arc layer is proved for an **arbitrary** archive `a` whose content satisfies the layout.  The
step from an image to its archive is property C01 (`parse` of a conforming bin image yields an
archive with the image's content); `arc_conforming_image` takes exactly that as the explicit
hypothesis `hC01`.  `ArcLemmas.padOf w = if w = 0 then 0x60 else 0` is the header padding the
format derives from the first data word `w`.
-/
import MilaModel.Model.Arc
import MilaModel.Spec.ArcImage
import MilaModel.Lemmas.Arc
import MilaModel.Lemmas.BinParse
import MilaModel.Lemmas.ComposeArc
import MilaModel.Lemmas.SerOracle

namespace Mila.Props.C16
open Mila Mila.Arc Mila.ArcLemmas
open Mila.Spec.Arc (u32le LowestLabel NoLabel StringsFunctional RecordAt RangeLeaves ConformsArcAt
  ConformsArc DistinctNames)

/-- **Extraction clause** (both arithmetic profiles `p`).  For every little-endian archive whose
content conforms to the arc layout for `files` — with or without the 0x60-byte zero header,
records in any order, bodies anywhere (shared, overlapping, empty bodies at any offset), and also
tiny arcs without any body whose data region is shorter than a header — extraction returns one entry
per record, keyed by its name, holding exactly the recorded range. -/
theorem arc_conforming (p : Profile) (a : BinArchive) (hle : a.endian = .little)
    {files : List (Str × Bytes)} {padded : Bool}
    (hc : ConformsArc (contentOf a) files padded) (hN : DistinctNames files) :
    fromArchive p a = .ok files := by
  obtain ⟨ca, ia, hsf, hcount, hinfo, hhead, hn, hfiles⟩ := hc
  obtain ⟨w, padded, hw, hpad, hfiles⟩ := header_fits_word _ files padded ia hhead hfiles
  obtain ⟨rs, hrs, hin, rfl⟩ :=
    files_recs a padded ia files 0 (fun i h => by rw [Nat.zero_add]; exact hfiles i h)
  rw [List.length_map] at hn
  rw [fromArchive_records p a rs ⟨hle, hsf, hcount, hinfo, hw, hn⟩ hrs, hpad,
    extract_ok hle (hpad ▸ padOf_le w) ia rs 0 [] hrs hin (by rw [List.nil_append]; exact hN),
    List.nil_append]

/-- The same for an image: `hC01` is property C01's conclusion for this image (the bin-archive
parser returns an archive `a`, whose content is then required to conform). -/
theorem arc_conforming_image (c : Codec) (p : Profile) (img : Bytes) (a : BinArchive)
    (hC01 : BinArchive.parse c .little img = .ok a)
    {files : List (Str × Bytes)} {padded : Bool}
    (hc : ConformsArc (contentOf a) files padded) (hN : DistinctNames files) :
    fromBytes c p img = .ok files := by
  simp only [fromBytes, hC01]
  exact arc_conforming p a (BinArchive.parse_endian hC01) hc hN

/-- The layout relation is unambiguous: an archive conforms to the arc layout for at most one
ordered file list (whatever the padding flag), so "the files the archive holds" is well defined
independently of the reader. -/
theorem arc_conforming_unique (a : BinArchive) (hle : a.endian = .little)
    {files files' : List (Str × Bytes)} {padded padded' : Bool}
    (hc : ConformsArc (contentOf a) files padded) (hc' : ConformsArc (contentOf a) files' padded')
    (hN : DistinctNames files) (hN' : DistinctNames files') : files = files' :=
  Res.ok.inj ((arc_conforming .checked a hle hc hN).symm.trans (arc_conforming .checked a hle hc' hN'))

/-- **No `Count` label** ⇒ `NoCount`, whatever else the archive holds. -/
theorem arc_no_count (p : Profile) (a : BinArchive) (h : NoLabel (contentOf a) Spec.Arc.COUNT) :
    fromArchive p a = .err .NoCount := by
  have : a.findLabelAddress COUNT = none := (findLabel_eq_none a _).mpr h
  simp [fromArchive, this]

/-- **A `Count` label but no `Info` label** ⇒ `NoInfo`. -/
theorem arc_no_info (p : Profile) (a : BinArchive) (x : Nat)
    (hcount : (x, Spec.Arc.COUNT) ∈ (contentOf a).labels) (h : NoLabel (contentOf a) Spec.Arc.INFO) :
    fromArchive p a = .err .NoInfo := by
  obtain ⟨y, hy, _⟩ := findLabel_exists a _ x hcount
  have h1 : a.findLabelAddress COUNT = some y := hy
  have h2 : a.findLabelAddress INFO = none := (findLabel_eq_none a _).mpr h
  simp [fromArchive, h1, h2]

/-- **A record without a name** ⇒ `MissingName`: the table announces `n` records, the records
`rs` before slot `rs.length < n` are readable, and the name cell of that slot lies inside the
data but is not a string cell.  The hypotheses `hle` to `hn` are the fields of `ArcLemmas.TableOk`. -/
theorem arc_missing_name (p : Profile) (a : BinArchive) (hle : a.endian = .little)
    (hsf : StringsFunctional (contentOf a)) {ca ia w n : Nat}
    (hcount : LowestLabel (contentOf a) Spec.Arc.COUNT ca)
    (hinfo : LowestLabel (contentOf a) Spec.Arc.INFO ia)
    (hw : u32le a.data 0 = some w) (hn : u32le a.data ca = some n)
    (rs : List (Str × Nat × Nat))
    (hrs : ∀ i, (hi : i < rs.length) → RecordAt (contentOf a) ia i rs[i].1 rs[i].2.1 rs[i].2.2)
    (hlt : rs.length < n) (hcell : ia + 16 * rs.length + 4 ≤ a.data.length)
    (hno : ∀ s, (ia + 16 * rs.length, s) ∉ (contentOf a).strings) :
    fromArchive p a = .err .MissingName := by
  obtain ⟨m, rfl⟩ : ∃ m, n = rs.length + (m + 1) := ⟨n - rs.length - 1, by omega⟩
  have := readRecords_prefix p a hle hsf (padOf w) (padOf_le w) ia rs 0
    (recsAt_of_forall a ia rs 0 (fun i h => by rw [Nat.zero_add]; exact hrs i h)) (m + 1)
  simp only [Nat.mul_zero, Nat.add_zero, Nat.zero_add] at this
  rw [fromArchive_table p a ⟨hle, hsf, hcount, hinfo, hw, hn⟩, this]
  have hget : a.text.get (ia + 16 * rs.length) = none :=
    (UMap.get_eq_none_iff _ _).mpr fun q hq e => hno q.2 (e ▸ hq)
  simp only [readRecords, readRecord_eq p a (padOf_le w), hcell, if_true, hget]

/-- **A record whose range leaves the data region** ⇒ `OutOfBounds`: all `rs.length` records
(name, size, offset) are readable, those before record `i` have their range inside the data, and
the non-empty range of record `i` — computed in unbounded arithmetic, so offsets near 2^32 do not
wrap around — ends beyond the data.  The hypotheses `hle` to `hn` are the fields of
`ArcLemmas.TableOk`, and `hbefore` is `ArcLemmas.RangeInside` of the records before `i`. -/
theorem arc_out_of_range (p : Profile) (a : BinArchive) (hle : a.endian = .little)
    (hsf : StringsFunctional (contentOf a)) {ca ia w : Nat}
    (hcount : LowestLabel (contentOf a) Spec.Arc.COUNT ca)
    (hinfo : LowestLabel (contentOf a) Spec.Arc.INFO ia)
    (hw : u32le a.data 0 = some w) (rs : List (Str × Nat × Nat))
    (hn : u32le a.data ca = some rs.length)
    (hrs : ∀ i, (hi : i < rs.length) → RecordAt (contentOf a) ia i rs[i].1 rs[i].2.1 rs[i].2.2)
    (i : Nat) (hi : i < rs.length)
    (hbefore : ∀ j, (hj : j < i) →
      rs[j].2.1 = 0 ∨ rs[j].2.2 + padOf w + rs[j].2.1 ≤ a.data.length)
    (hleave : RangeLeaves (contentOf a) (rs[i].2.2 + padOf w) rs[i].2.1) :
    fromArchive p a = .err .OutOfBounds := by
  have hrs' := recsAt_of_forall a ia rs 0 (fun i h => by rw [Nat.zero_add]; exact hrs i h)
  rw [fromArchive_records p a rs ⟨hle, hsf, hcount, hinfo, hw, hn⟩ hrs']
  exact extract_err hle (padOf_le w) ia rs 0 [] i hi hrs' hbefore hleave.1 hleave.2

/-- **Totality**: extraction never panics — for every archive, every image and both profiles. -/
theorem arc_total (p : Profile) (a : BinArchive) : fromArchive p a ≠ .panic :=
  fromArchive_total p a

theorem arc_from_bytes_total (c : Codec) (p : Profile) (bytes : Bytes) : fromBytes c p bytes ≠ .panic :=
  fromBytes_total c p bytes

/-- **Both profiles agree**: with overflow checks on or off the result is the same for every
image (after fix D9 the offset addition is done in `usize`, where it cannot overflow). -/
theorem arc_profile_independent (c : Codec) (bytes : Bytes) :
    fromBytes c .checked bytes = fromBytes c .wrapping bytes :=
  fromBytes_profile c _ _ bytes

/-- An unpadded archive: count cell at 0 (non-zero first word), table at 4, two records — one
with a 3-byte body at offset 36, one empty file whose offset points far outside the data. -/
private def exA : BinArchive :=
  { data := leBytes 4 2
      ++ ([0, 0, 0, 0] ++ leBytes 4 7 ++ leBytes 4 3 ++ leBytes 4 36)
      ++ ([0, 0, 0, 0] ++ leBytes 4 9 ++ leBytes 4 0 ++ leBytes 4 0xFFFFFFF0)
      ++ [0x0A, 0x0B, 0x0C, 0]
    text := [(4, bs ['a']), (20, bs ['b'])]
    pointers := []
    labels := [(4, [bs ['I', 'n', 'f', 'o']]), (0, [bs ['X'], bs ['C', 'o', 'u', 'n', 't']]),
               (36, [bs ['C', 'o', 'u', 'n', 't']])]
    cstrings := []
    endian := .little }

private def exFiles : List (Str × Bytes) := [(bs ['a'], [0x0A, 0x0B, 0x0C]), (bs ['b'], [])]

/-- The hypotheses of `arc_conforming` are satisfiable (duplicate `Count` label at a higher
address, label sharing a bucket, empty file with an out-of-data offset), and the model returns
the files. -/
example : ConformsArcAt (contentOf exA) exFiles false 0 4 ∧ DistinctNames exFiles ∧
    fromArchive .checked exA = .ok exFiles := by
  have hc : ConformsArcAt (contentOf exA) exFiles false 0 4 := by decide +kernel
  have hN : DistinctNames exFiles := by decide +kernel
  exact ⟨hc, hN, arc_conforming .checked exA rfl ⟨0, 4, hc⟩ hN⟩

/-- A padded archive (0x60 zero bytes, then count, table, body): offsets are relative to the end
of the header. -/
private def exP : BinArchive :=
  { data := List.replicate 0x60 0 ++ leBytes 4 1
      ++ ([0, 0, 0, 0] ++ leBytes 4 0 ++ leBytes 4 2 ++ leBytes 4 20) ++ [0x11, 0x22, 0, 0]
    text := [(100, bs ['z'])]
    pointers := []
    labels := [(96, [bs ['C', 'o', 'u', 'n', 't']]), (100, [bs ['I', 'n', 'f', 'o']])]
    cstrings := []
    endian := .little }

example : ConformsArcAt (contentOf exP) [(bs ['z'], [0x11, 0x22])] true 96 100 ∧
    fromArchive .wrapping exP = .ok [(bs ['z'], [0x11, 0x22])] := by
  have hc : ConformsArcAt (contentOf exP) [(bs ['z'], [0x11, 0x22])] true 96 100 := by decide +kernel
  exact ⟨hc, arc_conforming .wrapping exP rfl ⟨96, 100, hc⟩ (by decide)⟩

/-- The empty unpadded arc — the count word 0 alone, `Info` on the (empty) table at the end of the
data — and a 12-byte arc of one empty file behind a zero first word conform (`HeaderFits`: no
file has a body, so no 0x60-byte header is needed although the first data word is 0), and
extraction returns the files in both profiles. -/
private def exE : BinArchive :=
  { data := [0, 0, 0, 0], text := [], pointers := [],
    labels := [(0, [bs ['C', 'o', 'u', 'n', 't']]), (4, [bs ['I', 'n', 'f', 'o']])],
    cstrings := [], endian := .little }

private def exE1 : BinArchive :=
  { data := [0, 0, 0, 0] ++ leBytes 4 1 ++ ([0, 0, 0, 0] ++ leBytes 4 0x80000000 ++ leBytes 4 0 ++ leBytes 4 0xFFFFFFFF)
    text := [(8, bs ['e'])], pointers := []
    labels := [(4, [bs ['C', 'o', 'u', 'n', 't']]), (8, [bs ['I', 'n', 'f', 'o'], bs ['e']])],
    cstrings := [], endian := .little }

example : ConformsArcAt (contentOf exE) [] false 0 4 ∧ fromArchive .checked exE = .ok [] ∧
    fromArchive .wrapping exE = .ok [] ∧
    ConformsArcAt (contentOf exE1) [(bs ['e'], [])] false 4 8 ∧
    fromArchive .checked exE1 = .ok [(bs ['e'], [])] := by
  have hc : ConformsArcAt (contentOf exE) [] false 0 4 := by decide +kernel
  have hc1 : ConformsArcAt (contentOf exE1) [(bs ['e'], [])] false 4 8 := by decide +kernel
  exact ⟨hc, arc_conforming .checked exE rfl ⟨0, 4, hc⟩ (by decide),
    arc_conforming .wrapping exE rfl ⟨0, 4, hc⟩ (by decide), hc1,
    arc_conforming .checked exE1 rfl ⟨4, 8, hc1⟩ (by decide)⟩

/-- The out-of-range hypotheses are satisfiable: the same padded archive with the offset
`0xFFFFFFF0`, which a 32-bit addition of the padding would wrap to `0x50` (defect D9). -/
private def exW : BinArchive :=
  { exP with data := List.replicate 0x60 0 ++ leBytes 4 1
      ++ ([0, 0, 0, 0] ++ leBytes 4 0 ++ leBytes 4 2 ++ leBytes 4 0xFFFFFFF0) ++ [0x11, 0x22, 0, 0] }

example : RangeLeaves (contentOf exW) (0xFFFFFFF0 + padOf 0) 2 ∧
    fromArchive .checked exW = .err .OutOfBounds ∧ fromArchive .wrapping exW = .err .OutOfBounds := by
  have h : fromArchive .checked exW = .err .OutOfBounds := by decide +kernel
  exact ⟨by decide +kernel, h, fromArchive_profile .checked .wrapping exW ▸ h⟩

/-! ### composition with C01: the hypothesis `hC01` discharged

`arc_conforming_image` asks for the archive the bin-archive parser returns; by property C01
(`Ser.parse_conforming`) that archive exists for **every** image that conforms
(`Spec.Image.Conforms`: tables in any order, strings anywhere in the text section, …) to a
well-formed content `K` over a faithful codec, and it has the content `K`.  The arc layout is
carried along (`Compose.conformsArc_parsed`).  `hraw`: `Conforms` says nothing about the bytes of
`K.data` inside annotated cells, while the arc reader reads the image's data block as stored; so
`K.data` has to record the stored words there as well (i.e. `K.data` *is* the data block of the
image; `Compose.hraw_of_slice`). -/

/-- **Extraction from any conforming image** (both profiles): if `img` is a conforming little-endian
bin image of the content `K` and `K` — seen as data, string cells and `(address, label)` pairs —
has the arc layout of `files`, then `arc::from_bytes img` returns exactly `files`. -/
theorem arc_conforming_image_unconditional (c : Codec) (D : Str → Prop) (hf : c.Faithful D)
    (p : Profile) (img : Bytes) (K : Spec.Image.Content) (wf : K.WF)
    (hS : ∀ q ∈ K.strings, D q.2) (hL : ∀ q ∈ K.labels, ∀ n ∈ q.2, D n)
    (hconf : Spec.Image.Conforms c.enc .little img K)
    (hraw : ∀ i, K.covered i → img[0x20 + i]? = K.data[i]?)
    {files : List (Str × Bytes)} {padded : Bool}
    (hc : ConformsArc (Compose.arcOf K) files padded) (hN : DistinctNames files) :
    fromBytes c p img = .ok files := by
  have ctx : Ser.Ctx c D .little img K := ⟨hconf, wf, hf, hS, hL⟩
  obtain ⟨b, hb, hp⟩ := Ser.parse_conforming ctx
  exact arc_conforming_image c p img b hb (Compose.conformsArc_parsed ctx hp hraw hc) hN

/-! Non-vacuity of the composed theorem: the image the bin-archive writer produces for `exA`
(identity codec; the 129 bytes are spelled out because `List.mergeSort` does not reduce in the
kernel), its content with the data block as stored, and the arc layout of `exFiles`. -/

private def idc : Codec := ⟨fun s => some s, id⟩

private def exImg : Bytes :=
  [129, 0, 0, 0, 40, 0, 0, 0, 2, 0, 0, 0, 4, 0, 0, 0, 0, 0, 0, 0, 0, 0, 0, 0, 0, 0, 0, 0, 0, 0, 0, 0,
   -- data block (string cells 4 and 20 hold text offsets 93 and 95)
   2, 0, 0, 0, 93, 0, 0, 0, 7, 0, 0, 0, 3, 0, 0, 0, 36, 0, 0, 0, 95, 0, 0, 0, 9, 0, 0, 0, 0, 0, 0, 0,
   240, 255, 255, 255, 10, 11, 12, 0,
   -- pointer table, label table
   4, 0, 0, 0, 20, 0, 0, 0,
   0, 0, 0, 0, 0, 0, 0, 0, 0, 0, 0, 0, 2, 0, 0, 0, 4, 0, 0, 0, 8, 0, 0, 0, 36, 0, 0, 0, 2, 0, 0, 0,
   -- text: "X", "Count", "Info", "a", "b"
   88, 0, 67, 111, 117, 110, 116, 0, 73, 110, 102, 111, 0, 97, 0, 98, 0]

private def exK : Spec.Image.Content :=
  ⟨BinArchive.slice exImg 0x20 exA.data.length, exA.text, [], exA.labels⟩

example : fromBytes idc .checked exImg = .ok exFiles ∧ fromBytes idc .wrapping exImg = .ok exFiles := by
  have hf : idc.Faithful (fun s => (0 : UInt8) ∉ s) := fun s hs => ⟨s, rfl, hs, rfl⟩
  have wf : exK.WF := ⟨by decide +kernel, by decide +kernel, by decide +kernel, by decide +kernel,
    by decide +kernel⟩
  have h := arc_conforming_image_unconditional idc _ hf .checked exImg exK wf (by decide +kernel)
    (by decide +kernel) ((Ser.conformsCheck_iff _ _ _ _).mp (by decide +kernel))
    (Compose.hraw_of_slice (f := exImg) wf (by decide +kernel))
    (files := exFiles) (padded := false) ⟨0, 4, by decide +kernel⟩ (by decide +kernel)
  exact ⟨h, arc_profile_independent idc exImg ▸ h⟩

end Mila.Props.C16
