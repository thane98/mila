/-
C20 — Texture containers yield the packed textures and fail cleanly when truncated.

Model: `Mila.Containers` (`Model/Containers.lean`, readers of `src/ctpk.rs`, `src/bch.rs`, `src/cgfx.rs`,
`src/tpl.rs` in a small reader language).  Specification: `Mila.Spec.Tex` (`Spec/TexContainers.lean`,
decidable conformance predicates written from the format documentation).  `unpack p t` is the
texture a reader must return for the packed texture `t`: its name, its dimensions, and the pixels
the decoder makes of `t`'s own payload (`packed_pixels`; C19 says what those are).
The tie model ↔ Rust is the `texc` correspondence stream.
-/
import MilaModel.Lemmas.TexCtpk
import MilaModel.Lemmas.TexBch
import MilaModel.Lemmas.TexCgfx
import MilaModel.Lemmas.TexTpl

namespace Mila.Props.C20
open Mila Mila.Containers Mila.Spec.Tex

/-- A packed texture of the property's domain decodes (both profiles), and `unpack` carries
exactly that decoding. -/
theorem packed_pixels (p : Profile) (t : Tex) (h : valid3ds t = true) :
    Pixel.decodePixelData p t.payload t.width t.height t.format = .ok (unpack p t).pixels :=
  (valid3ds_decodes p t h).2.2

private theorem reader_of_full {prog : Prog (List Raw)} {f : Buf} {raws : List Raw} {sf : St} {want : List Texture}
    (h : run prog f ⟨0, [], 0⟩ = .ok (raws, sf)) (ha : assemble sf.names.reverse raws = want) :
    runReader prog f = .ok want := by
  simp [runReader, h, ha]

/-- Truncation, for a reader `rd` that post-processes the run of `prog` and whose run on the whole
file is known: no panic on a strict prefix, and an error when the cut removes part of a byte range
that the full run has read to its end. -/
private theorem reader_prefix {β : Type} {prog : Prog (List Raw)} (rd : Buf → Res β)
    (post : List Raw → St → β)
    (hrd : ∀ d, rd d = match run prog d ⟨0, [], 0⟩ with
      | .ok (raws, s) => .ok (post raws s) | .err e => .err e | .panic => .panic)
    {f : Buf} {raws : List Raw} {sf : St} {k : Nat}
    (hk : k < f.size) (h : run prog f ⟨0, [], 0⟩ = .ok (raws, sf)) :
    rd (f.extract 0 k) ≠ .panic ∧
    ∀ off len, off + len ≤ sf.hi → cuts k off len = true → ∃ e, rd (f.extract 0 k) = .err e := by
  obtain ⟨h1, h2⟩ := prefix_outcome prog f k (by omega) raws sf h
  rw [hrd]
  constructor
  · intro hp
    apply h1
    split at hp <;> simp_all
  · intro off len hle hcut
    simp only [cuts, Bool.and_eq_true, decide_eq_true_eq] at hcut
    obtain ⟨e, he⟩ := h2 (by omega)
    exact ⟨e, by rw [he]⟩

/-- **CTPK.** A conforming file is read as the packed textures: same number, same order, the
stored names as decoded by Shift-JIS, the stored dimensions, the decoding of each payload. -/
theorem ctpk_read_conforming (p : Profile) (f : Buf) (texs : List Tex)
    (hc : ConformsCtpk (decodeName .sjis) f texs = true) :
    ctpkRead p f = .ok (texs.map (unpack p)) := by
  obtain ⟨raws, sf, h, ha, _⟩ := ctpk_full p f texs hc
  exact reader_of_full h ha

/-- **CTPK, truncation.** Every strict prefix of a conforming file is read without a panic, and
with an error whenever the cut removes part of a texture payload. -/
theorem ctpk_prefix_safe (p : Profile) (f : Buf) (texs : List Tex)
    (hc : ConformsCtpk (decodeName .sjis) f texs = true) (k : Nat) (hk : k < f.size) :
    ctpkRead p (f.extract 0 k) ≠ .panic ∧
    ∀ i t, texs[i]? = some t → cuts k (ctpkPayloadAt f i) t.payload.size = true →
      ∃ e, ctpkRead p (f.extract 0 k) = .err e := by
  obtain ⟨raws, sf, h, _, hhi⟩ := ctpk_full p f texs hc
  obtain ⟨h1, h2⟩ := reader_prefix (ctpkRead p) _ (fun _ => rfl) hk h
  exact ⟨h1, fun i t ht => h2 _ _ (hhi i t ht)⟩

/-- **BCH.** A conforming file (compatibility byte ≤ 20 or > 0x20, N2) is read as the packed
textures, names being the stored UTF-8 strings verbatim. -/
theorem bch_read_conforming (p : Profile) (f : Buf) (texs : List Tex) (hc : ConformsBch f texs = true) :
    bchRead p f = .ok (texs.map (unpack p)) := by
  obtain ⟨raws, sf, h, ha, _⟩ := bch_full p f texs hc
  exact reader_of_full h ha

/-- **BCH, wrong magic.** Input that does not start with `BCH\0` is rejected with an error. -/
theorem bch_bad_magic (p : Profile) (f : Buf) (h : f.size < 4 ∨ u32At f 0 ≠ 0x484342) :
    ∃ e, bchRead p f = .err e :=
  ⟨_, by rw [bchRead, runReader, Containers.bch_bad_magic p f h]⟩

/-- **BCH, truncation.** -/
theorem bch_prefix_safe (p : Profile) (f : Buf) (texs : List Tex) (hc : ConformsBch f texs = true)
    (k : Nat) (hk : k < f.size) :
    bchRead p (f.extract 0 k) ≠ .panic ∧
    ∀ i t, texs[i]? = some t → cuts k (bchPayloadAt f i) t.payload.size = true →
      ∃ e, bchRead p (f.extract 0 k) = .err e := by
  obtain ⟨raws, sf, h, _, hhi⟩ := bch_full p f texs hc
  obtain ⟨h1, h2⟩ := reader_prefix (bchRead p) _ (fun _ => rfl) hk h
  exact ⟨h1, fun i t ht => h2 _ _ (hhi i t ht)⟩

/-- **CGFX.** A conforming file is read as the packed textures (DATA → DICT → TXOB chain with
self-relative offsets), names being the stored UTF-8 strings verbatim. -/
theorem cgfx_read_conforming (p : Profile) (f : Buf) (texs : List Tex) (hc : ConformsCgfx f texs = true) :
    cgfxRead p f = .ok (texs.map (unpack p)) := by
  obtain ⟨raws, sf, h, ha, _⟩ := cgfx_full p f texs hc
  exact reader_of_full h ha

/-- **CGFX, wrong magic.** Input that does not start with `CGFX` is rejected with an error. -/
theorem cgfx_bad_magic (p : Profile) (f : Buf) (h : f.size < 4 ∨ u32At f 0 ≠ 0x58464743) :
    ∃ e, cgfxRead p f = .err e :=
  ⟨_, by rw [cgfxRead, runReader, Containers.cgfx_bad_magic p f h]⟩

/-- **CGFX, truncation.** -/
theorem cgfx_prefix_safe (p : Profile) (f : Buf) (texs : List Tex) (hc : ConformsCgfx f texs = true)
    (k : Nat) (hk : k < f.size) :
    cgfxRead p (f.extract 0 k) ≠ .panic ∧
    ∀ i t, texs[i]? = some t → cuts k (cgfxPayloadAt f i) t.payload.size = true →
      ∃ e, cgfxRead p (f.extract 0 k) = .err e := by
  obtain ⟨raws, sf, h, _, hhi⟩ := cgfx_full p f texs hc
  obtain ⟨h1, h2⟩ := reader_prefix (cgfxRead p) _ (fun _ => rfl) hk h
  exact ⟨h1, fun i t ht => h2 _ _ (hhi i t ht)⟩

/-- A packed CI8 image of the property's domain decodes, and `unpackTpl` carries exactly that
decoding (C19 `ci8_block_spec` says what it is). -/
theorem packed_pixels_tpl (t : Tex) (h : validTpl t = true) :
    Pixel.tplDecodeImage 2 t.palette 9 t.height t.width t.payload = .ok (unpackTpl t).pixels :=
  (validTpl_spec h).2.2.2.2

/-- **TPL.** A conforming file (CI8 images with RGB5A3 palettes, all pointers absolute) is read as
the packed images, in order, with their dimensions and empty names. -/
theorem tpl_read_conforming (f : Buf) (texs : List Tex) (hc : ConformsTpl f texs = true) :
    tplRead f = .ok (texs.map unpackTpl) := by
  obtain ⟨raws, sf, h, ha, _⟩ := tpl_full f texs hc
  simp [tplRead, h, ha]

/-- **TPL, wrong magic.** Input that does not start with `00 20 AF 30` is rejected with an error. -/
theorem tpl_bad_magic (f : Buf) (h : f.size < 4 ∨ be32 f 0 ≠ 0x0020AF30) : ∃ e, tplRead f = .err e :=
  ⟨_, by rw [tplRead, tpl_bad_magic_err f h]⟩

/-- **TPL, truncation.** No panic on any strict prefix; an error whenever the cut removes part of
an image's data or of its palette. -/
theorem tpl_prefix_safe (f : Buf) (texs : List Tex) (hc : ConformsTpl f texs = true) (k : Nat) (hk : k < f.size) :
    tplRead (f.extract 0 k) ≠ .panic ∧
    ∀ i t, texs[i]? = some t →
      (cuts k (tplPayloadAt f i) t.payload.size = true ∨ cuts k (tplPaletteAt f i) t.palette.size = true) →
      ∃ e, tplRead (f.extract 0 k) = .err e := by
  obtain ⟨raws, sf, h, _, hhi⟩ := tpl_full f texs hc
  obtain ⟨h1, h2⟩ := reader_prefix tplRead _ (fun _ => rfl) hk h
  exact ⟨h1, fun i t ht hcut => hcut.elim (h2 _ _ (hhi i t ht).1) (h2 _ _ (hhi i t ht).2)⟩

/-! ### non-vacuity: concrete files satisfy the conformance predicates -/

private def le (k n : Nat) : Mila.Buf := (leBytes k n).toArray
private def be (k n : Nat) : Mila.Buf := (beBytes k n).toArray

/-- A CTPK file with one 8×8 L8 texture named "p" (payload after the name). -/
private def sampleCtpk : Mila.Buf :=
  le 4 0x4B505443 ++ le 2 1 ++ le 2 1 ++ le 4 0x44 ++ le 4 64 ++ le 4 0 ++ le 4 0 ++ le 8 0 ++
  le 4 0x40 ++ le 4 64 ++ le 4 0 ++ le 4 7 ++ le 2 8 ++ le 2 8 ++ le 1 1 ++ le 1 0 ++ le 2 0 ++
  le 4 0 ++ le 4 0 ++ #[0x70, 0, 0, 0] ++ Array.replicate 64 0x55

example : ConformsCtpk (decodeName .sjis) sampleCtpk
    [⟨[0x70], [0x70], 8, 8, 7, Array.replicate 64 0x55, #[]⟩] = true := by
  -- the file as one list: the kernel evaluates an `Array` append push by push, at every use
  simp only [sampleCtpk, le, ← List.toArray_replicate, List.append_toArray]
  decide +kernel

/-- A 60-byte BCH file without textures whose content table overlaps the header tail
(compatibility byte 20: short header). -/
private def sampleBch : Mila.Buf :=
  le 4 0x484342 ++ #[20, 0] ++ le 2 0 ++ le 4 16 ++ le 4 0 ++ le 4 0 ++ le 4 0 ++
  Array.replicate 28 0 ++ le 4 0 ++ le 4 0 ++ le 4 0

example : ConformsBch sampleBch [] = true := by
  simp only [sampleBch, le, ← List.toArray_replicate, List.append_toArray]
  decide +kernel

/-- A CGFX file without textures: header, DATA with entry 1 pointing at an empty DICT. -/
private def sampleCgfx : Mila.Buf :=
  le 4 0x58464743 ++ Array.replicate 16 0 ++ le 4 0x41544144 ++ le 4 0 ++
  le 4 0 ++ le 4 0 ++ le 4 0 ++ le 4 0x74 ++ Array.replicate 112 0 ++
  le 4 0x54434944 ++ le 4 0 ++ le 4 0 ++ Array.replicate 16 0

example : ConformsCgfx sampleCgfx [] = true := by
  simp only [sampleCgfx, le, ← List.toArray_replicate, List.append_toArray]
  decide +kernel

/-- A TPL file with one 3×2 CI8 image (padded to 8×4) and a two-entry palette. -/
private def sampleTpl : Mila.Buf :=
  be 4 0x0020AF30 ++ be 4 1 ++ be 4 12 ++          -- header; table at 12
  be 4 20 ++ be 4 56 ++                            -- image header at 20, palette header at 56
  be 2 2 ++ be 2 3 ++ be 4 9 ++ be 4 68 ++ Array.replicate 24 0 ++   -- image header (36 bytes), data at 68
  be 2 2 ++ #[0, 0] ++ be 4 2 ++ be 4 100 ++       -- palette header (12 bytes), data at 100
  Array.replicate 32 1 ++ #[0x80, 0x1F, 0x7F, 0xFF]

example : ConformsTpl sampleTpl
    [⟨[], [], 3, 2, 9, Array.replicate 32 1, #[0x80, 0x1F, 0x7F, 0xFF]⟩] = true := by
  simp only [sampleTpl, be, ← List.toArray_replicate, List.append_toArray]
  decide +kernel

end Mila.Props.C20
