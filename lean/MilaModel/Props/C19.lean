/-
C19 — Pixel decoding matches the hardware formats.

Model: `Mila.Pixel` / `Mila.Etc1` (`Model/Pixel.lean`, `Model/Etc1.lean`: transcriptions of
`src/texture_decoder.rs`, `src/etc1.rs`, `src/pixel_encodings.rs`, `src/texture_utils.rs` and the size
tables of `src/tpl.rs`).  Specification: `Mila.Spec.Morton` (Z-order / block placement),
`Mila.Spec.Linear` (channel layouts, linear expansion within one quantisation step),
`Mila.Spec.Etc1` (Khronos ETC1 rules) — none of them mentions the model.
Helper lemmas (loop invariants, finite tables) live in `MilaModel/Lemmas/Pixel*.lean`.
The tie model ↔ Rust is the `pixel` correspondence stream (both cargo profiles).

Domain hypotheses: sides are powers of two from 8 up (`PowerOfTwoFrom8`) and below 2^16 (the
containers store 16-bit sides; the property's own range 8…128 is inside), the payload has exactly
the size the format requires.  All statements hold for both arithmetic profiles `p`.
-/
import MilaModel.Lemmas.PixelDecode
import MilaModel.Lemmas.PixelEtcRules
import MilaModel.Lemmas.PixelCi8
import MilaModel.Spec.Linear

namespace Mila.Props.C19
open Mila Mila.Pixel Mila.Spec.Linear Mila.Spec.Morton

/-- The literal `TILE_ORDER` table is the Z-order (Morton) curve of the 8×8 tile: entry `i` is the
row-major position `y*8 + x` of the texel whose Morton index is `i`. -/
theorem tile_is_morton : ∀ i, i < 64 →
    TILE_ORDER.getD i 0 = mortonY i * 8 + mortonX i :=
  tile_order_morton

private theorem layout_fixed {fmt : Nat} {l : Layout} (hl : layout fmt = some l) :
    FixedFmt fmt ∧ l.bytes = texelBytes fmt := by
  unfold layout at hl
  split at hl <;> simp only [Option.some.injEq, reduceCtorEq] at hl <;> subst hl <;>
    simp [FixedFmt, texelBytes]

/-- **Pixel placement, tiled formats** (RGBA8, RGBA5551, RGB565, RGBA4, LA8, L8, A8).  For every
power-of-two size from 8 up (below 2^16) and a payload of exactly the required size the decoder
succeeds, returns `width × height` RGBA pixels, and the pixel at `(x, y)` is the colour
`decodeColor` makes of the texel stored at the Z-order offset `tileOffset width x y`. -/
theorem decode_pixel (p : Profile) (data : Buf) (w h fmt : Nat) (l : Layout)
    (hl : layout fmt = some l) (hw : PowerOfTwoFrom8 w) (hh : PowerOfTwoFrom8 h)
    (hwb : w < 2 ^ 16) (hhb : h < 2 ^ 16) (hd : data.size = l.bytes * (w * h)) :
    ∃ bmp, decodePixelData p data w h fmt = .ok bmp ∧ bmp.size = 4 * (w * h) ∧
      ∀ x y c, x < w → y < h → c < 4 →
        bmp.getD ((y * w + x) * 4 + c) 0 =
          chanByte (decodeColor (leAt data (tileOffset w x y * l.bytes) l.bytes) fmt) c := by
  obtain ⟨hfix, hbytes⟩ := layout_fixed hl
  have hle : fmt ≤ 11 := by unfold FixedFmt at hfix; omega
  obtain ⟨bmp, hb, hsz, hpx⟩ := decodeRgba_ok p data w h fmt hfix (Etc1.pow2_mod8 hw) (Etc1.pow2_mod8 hh) hwb hhb
    (by rw [hd, hbytes])
  refine ⟨bmp, by rw [decodePixelData_tiled p _ _ _ _ hle, hb], by rw [hsz, Nat.mul_comm h w], ?_⟩
  intro x y c hx hy hc
  rw [hpx x y c hx hy hc, expByte, leAt_eq, hbytes]

/-- **Channel expansion.** Every channel that the format stores is within one quantisation step
of the linear expansion of its source bits (RGBA8/LA8/L8/A8 and RGBA4 channels are exact, 5- and
6-bit channels are off by at most 7 resp. 3); `decide` over all values of each channel width,
lifted to all texel values by the bit-field form of `decodeColor`. -/
theorem channel_linear (fmt : Nat) (l : Layout) (value : Nat) (hl : layout fmt = some l) :
    pixelOk l value (decodeColor value fmt).r (decodeColor value fmt).g (decodeColor value fmt).b
      (decodeColor value fmt).a := by
  have lin1 : ∀ a, withinStep 1 (a % 2) (if a % 2 = 1 then 0xFF else 0) := fun a =>
    (by decide : ∀ n, n < 2 → withinStep 1 n (if n = 1 then 0xFF else 0)) _ (Nat.mod_lt a (by decide))
  have lin4 : ∀ a, withinStep 4 (a % 16) (exp4 (a % 16)) := fun a =>
    (by decide : ∀ n, n < 16 → withinStep 4 n (exp4 n)) _ (Nat.mod_lt a (by decide))
  have lin5 : ∀ a, withinStep 5 (a % 32) (conv5 (a % 32)) := fun a =>
    (by decide : ∀ n, n < 32 → withinStep 5 n (conv5 n)) _ (Nat.mod_lt a (by decide))
  have lin6 : ∀ a, withinStep 6 (a % 64) (a % 64 * 4 % 256) := fun a =>
    (by decide : ∀ n, n < 64 → withinStep 6 n (n * 4 % 256)) _ (Nat.mod_lt a (by decide))
  have lin8 : ∀ a, withinStep 8 (a % 256) (a % 256) := fun a => by unfold withinStep; omega
  unfold layout at hl
  split at hl <;> simp only [Option.some.injEq, reduceCtorEq] at hl <;> subst hl <;>
    simp only [decodeColor, pixelOk, chanOk, Nat.pow_zero, Nat.div_one]
  · exact ⟨lin8 _, lin8 _, lin8 _, lin8 _⟩
  · exact ⟨lin5 _, lin5 _, lin5 _, lin1 _⟩
  · exact ⟨lin5 _, lin6 _, lin5 _, trivial⟩
  · exact ⟨lin4 _, lin4 _, lin4 _, lin4 _⟩
  · exact ⟨lin8 _, lin8 _, lin8 _, lin8 _⟩
  · exact ⟨lin8 _, lin8 _, lin8 _, trivial⟩
  · exact ⟨by omega, by omega, by omega, lin8 _⟩

private theorem chanOk_le {s : Src} {value c : Nat} (h : chanOk s value c) : c ≤ 255 := by
  cases s <;> simp only [chanOk, withinStep] at h <;> omega

private theorem pixelOk_chan_lt {l : Layout} {value : Nat} {col : Rgba}
    (h : pixelOk l value col.r col.g col.b col.a) (c : Nat) : col.chan c < 256 := by
  obtain ⟨hr, hg, hb, ha⟩ := h
  unfold Rgba.chan
  split <;> exact Nat.lt_succ_of_le (chanOk_le (by assumption))

private theorem pixel_byte {out : Buf} {o : Nat} {col : Rgba} (hlt : ∀ c, col.chan c < 256)
    (h : ∀ c, c < 4 → out.getD (o + c) 0 = chanByte col c) (c : Nat) (hc : c < 4) :
    (out.getD (o + c) 0).toNat = col.chan c := by
  rw [h c hc, chanByte, UInt8.toNat_ofNat', Nat.mod_eq_of_lt (hlt c)]

private theorem pixel_bytes {out : Buf} {o : Nat} {col : Rgba} (hlt : ∀ c, col.chan c < 256)
    (h : ∀ c, c < 4 → out.getD (o + c) 0 = chanByte col c) :
    (out.getD o 0).toNat = col.r ∧ (out.getD (o + 1) 0).toNat = col.g ∧
    (out.getD (o + 2) 0).toNat = col.b ∧ (out.getD (o + 3) 0).toNat = col.a :=
  ⟨pixel_byte hlt h 0 (by omega), pixel_byte hlt h 1 (by omega), pixel_byte hlt h 2 (by omega),
    pixel_byte hlt h 3 (by omega)⟩

/-- **The property's first clause for the tiled formats**, on output bytes: the four bytes at
pixel `(x, y)` are an admissible rendering (specification `pixelOk`) of the texel value at the
Z-order offset of `(x, y)`. -/
theorem decode_pixel_spec (p : Profile) (data : Buf) (w h fmt : Nat) (l : Layout)
    (hl : layout fmt = some l) (hw : PowerOfTwoFrom8 w) (hh : PowerOfTwoFrom8 h)
    (hwb : w < 2 ^ 16) (hhb : h < 2 ^ 16) (hd : data.size = l.bytes * (w * h)) :
    ∃ bmp, decodePixelData p data w h fmt = .ok bmp ∧ bmp.size = 4 * (w * h) ∧
      ∀ x y, x < w → y < h →
        pixelOk l (leAt data (tileOffset w x y * l.bytes) l.bytes)
          (bmp.getD ((y * w + x) * 4) 0).toNat (bmp.getD ((y * w + x) * 4 + 1) 0).toNat
          (bmp.getD ((y * w + x) * 4 + 2) 0).toNat (bmp.getD ((y * w + x) * 4 + 3) 0).toNat := by
  obtain ⟨bmp, hb, hsz, hpx⟩ := decode_pixel p data w h fmt l hl hw hh hwb hhb hd
  refine ⟨bmp, hb, hsz, fun x y hx hy => ?_⟩
  obtain ⟨e0, e1, e2, e3⟩ := pixel_bytes (pixelOk_chan_lt (channel_linear fmt l _ hl))
    (fun c hc => hpx x y c hx hy hc)
  rw [e0, e1, e2, e3]
  exact channel_linear fmt l _ hl

/-- **ETC1 rules.** On every legal block (differential sums within 0…31) and every texel the
model's colour is exactly the colour of the Khronos decoding rules: individual / differential base
colours, 3-bit signed deltas, modifier table, MSB/LSB selector meaning, flip bit, column-major
texel index, clamping. -/
theorem etc1_rules (alphas word x y : Nat) (hx : x < 4) (hy : y < 4) (hl : Spec.Etc1.Legal word)
    (ch : Nat) (hch : ch < 3) :
    (((Etc1.texel alphas word x y).chan ch : Nat) : Int) = Spec.Etc1.channel word x y ch :=
  Etc1.texel_rules alphas word x y hx hy hl ch hch

/-- **ETC1A4 alpha.** The alpha of texel `(x, y)` is its 4-bit nibble times 17 — the exact linear
expansion, in particular within one step. -/
theorem etc1a4_alpha (alphas word x y : Nat) :
    (Etc1.texel alphas word x y).a = Spec.Etc1.alphaNibble alphas x y * 17 ∧
    withinStep 4 (Spec.Etc1.alphaNibble alphas x y) (Etc1.texel alphas word x y).a := by
  have hn : Spec.Etc1.alphaNibble alphas x y < 16 := Nat.mod_lt _ (by decide)
  have he : (Etc1.texel alphas word x y).a = Spec.Etc1.alphaNibble alphas x y * 17 := by
    simp only [Etc1.texel, Spec.Etc1.alphaNibble, Nat.mul_comm (x * 4 + y) 4]
    omega
  refine ⟨he, ?_⟩
  rw [he]; unfold withinStep; omega

/-- **Pixel placement, ETC1 / ETC1A4.** For every power-of-two size from 8 up and a payload of
exactly the required size (4 resp. 8 bits per pixel) the decoder succeeds and pixel `(x, y)` is
texel `(x % 4, y % 4)` of block number `etcBlock width x y` (8×8 tiles of 2×2 blocks). -/
theorem decode_pixel_etc (p : Profile) (data : Buf) (w h : Nat) (alpha : Bool)
    (hw : PowerOfTwoFrom8 w) (hh : PowerOfTwoFrom8 h) (hwb : w < 2 ^ 16) (hhb : h < 2 ^ 16)
    (hd : data.size * 8 = (if alpha then 8 else 4) * (w * h)) :
    ∃ bmp, decodePixelData p data w h (if alpha then 13 else 12) = .ok bmp ∧ bmp.size = 4 * (w * h) ∧
      ∀ x y c, x < w → y < h → c < 4 →
        bmp.getD ((y * w + x) * 4 + c) 0 =
          chanByte (Etc1.texel (Spec.Etc1.alphaWordAt data w alpha x y) (Spec.Etc1.wordAt data w alpha x y) (x % 4) (y % 4)) c := by
  have harea : w * h = h / 8 * (w / 8) * 64 := by
    rw [Nat.mul_comm]; exact area_split (Etc1.pow2_mod8 hh) (Etc1.pow2_mod8 hw)
  have hd' : data.size = (h / 8 * (w / 8) * 4) * Etc1.blockBytes alpha := by
    cases alpha <;> simp only [Etc1.blockBytes, Bool.false_eq_true, if_false, if_true] at hd ⊢ <;> omega
  obtain ⟨bmp, hb, hsz, hpx⟩ := Etc1.decode_ok p data w h alpha hw hh hwb hhb hd'
  refine ⟨bmp, ?_, by rw [hsz, Nat.mul_comm h w], ?_⟩
  · rw [decodePixelData_etc p _ _ _ _ (by cases alpha <;> simp), ← hb]
    cases alpha <;> simp
  · intro x y c hx hy hc
    rw [hpx x y c hx hy hc]
    cases alpha <;> simp [Etc1.expByte, Spec.Etc1.wordAt, Spec.Etc1.alphaWordAt, Etc1.blockBytes, leAt_eq]

private theorem texel_chan_lt (alphas word x y c : Nat) : (Etc1.texel alphas word x y).chan c < 256 := by
  have hc : ∀ b a, Etc1.clampAdd b a < 256 := by intro b a; unfold Etc1.clampAdd; omega
  unfold Rgba.chan
  split
  · exact hc _ _
  · exact hc _ _
  · exact hc _ _
  · have := (etc1a4_alpha alphas word x y).1
    have hn : Spec.Etc1.alphaNibble alphas x y < 16 := Nat.mod_lt _ (by decide)
    omega

/-- **The property's ETC1 clause on output bytes.** For every power-of-two size from 8 up and an
exact payload, the R, G, B bytes of pixel `(x, y)` equal the Khronos-rules colour of texel
`(x % 4, y % 4)` of the block holding the pixel whenever that block is legal, and the alpha byte
is within one step of (indeed exactly) the linear expansion of the pixel's alpha nibble. -/
theorem decode_etc_spec (p : Profile) (data : Buf) (w h : Nat) (alpha : Bool)
    (hw : PowerOfTwoFrom8 w) (hh : PowerOfTwoFrom8 h) (hwb : w < 2 ^ 16) (hhb : h < 2 ^ 16)
    (hd : data.size * 8 = (if alpha then 8 else 4) * (w * h)) :
    ∃ bmp, decodePixelData p data w h (if alpha then 13 else 12) = .ok bmp ∧ bmp.size = 4 * (w * h) ∧
      ∀ x y, x < w → y < h →
        (Spec.Etc1.Legal (Spec.Etc1.wordAt data w alpha x y) → ∀ ch, ch < 3 →
          (((bmp.getD ((y * w + x) * 4 + ch) 0).toNat : Nat) : Int) =
            Spec.Etc1.channel (Spec.Etc1.wordAt data w alpha x y) (x % 4) (y % 4) ch) ∧
        withinStep 4 (Spec.Etc1.alphaNibble (Spec.Etc1.alphaWordAt data w alpha x y) (x % 4) (y % 4))
          (bmp.getD ((y * w + x) * 4 + 3) 0).toNat := by
  obtain ⟨bmp, hb, hsz, hpx⟩ := decode_pixel_etc p data w h alpha hw hh hwb hhb hd
  refine ⟨bmp, hb, hsz, fun x y hx hy => ?_⟩
  have e := pixel_byte (texel_chan_lt _ _ _ _) (fun c hc => hpx x y c hx hy hc)
  refine ⟨fun hl ch hch => ?_, e 3 (by omega) ▸ (etc1a4_alpha _ _ _ _).2⟩
  rw [e ch (by omega)]
  exact etc1_rules (Spec.Etc1.alphaWordAt data w alpha x y) _ _ _ (Nat.mod_lt x (by decide))
    (Nat.mod_lt y (by decide)) hl ch hch

/-- **RGB5A3 values.** For every 16-bit value (indeed every number) the decoded colour is an
admissible rendering of the RGB5A3 layout: top bit set — 5-bit R, G, B; top bit clear — 3-bit
alpha and 4-bit R, G, B; each within one step of the linear expansion. -/
theorem rgb5a3_spec (v : Nat) :
    pixelOk (rgb5a3Layout v) v (decodeRgb5a3 v).r (decodeRgb5a3 v).g (decodeRgb5a3 v).b (decodeRgb5a3 v).a := by
  have lin3 : ∀ a, withinStep 3 (a % 8) (0x20 * (a % 8) % 256) := fun a =>
    (by decide : ∀ n, n < 8 → withinStep 3 n (0x20 * n % 256)) _ (Nat.mod_lt a (by decide))
  have lin4 : ∀ a, withinStep 4 (a % 16) (0x11 * (a % 16) % 256) := fun a =>
    (by decide : ∀ n, n < 16 → withinStep 4 n (0x11 * n % 256)) _ (Nat.mod_lt a (by decide))
  have lin5 : ∀ a, withinStep 5 (a % 32) (0x8 * (a % 32) % 256) := fun a =>
    (by decide : ∀ n, n < 32 → withinStep 5 n (0x8 * n % 256)) _ (Nat.mod_lt a (by decide))
  unfold rgb5a3Layout decodeRgb5a3 pixelOk
  by_cases h : v / 2 ^ 15 % 2 = 1
  · -- the red field is read with its top bit: `8 * (32 + r)` wraps to `8 * r`
    have hr : 0x8 * (v / 2 ^ 10 % 256) % 256 = 0x8 * (v / 2 ^ 10 % 32) % 256 := by omega
    rw [if_pos h, if_neg (by omega), hr]
    exact ⟨lin5 _, lin5 _, by simpa [chanOk] using lin5 v, rfl⟩
  · rw [if_neg h, if_pos (by omega)]
    exact ⟨lin4 _, lin4 _, by simpa [chanOk] using lin4 v, lin3 _⟩

/-- `ColorFormat::RGB5A3.decode`: value `i` of the input (big-endian) becomes pixel `i`. -/
theorem rgb5a3_stream (data : Buf) (he : data.size % 2 = 0) :
    ∃ out, ColorFormat.RGB5A3.decode data = .ok out ∧ out.size = 4 * (data.size / 2) ∧
      ∀ i c, i < data.size / 2 → c < 4 →
        out.getD (4 * i + c) 0 = chanByte (decodeRgb5a3 (be16At data (2 * i))) c := by
  obtain ⟨out, h1, h2, h3⟩ := rgb5a3_decode data he
  exact ⟨out, h1, h2, fun i c hi hc => by rw [h3 i c hi hc, be16At_eq]⟩

/-- **CI8 in 8×4 blocks, cropped.** A palette image of any size ≥ 1 (the property's 1…64
included) whose visible indices are inside the palette decodes to `width × height` pixels; pixel
`(x, y)` is the RGB5A3 decoding of the palette entry whose index sits at the block position
`ci8Offset (pad8 width) x y` of the image data (8 wide, 4 high blocks of the padded image). -/
theorem ci8_block_spec (palette image : Buf) (w h : Nat) (hw : 0 < w) (hh : 0 < h)
    (hp : palette.size % 2 = 0) (hi : image.size = ((h + 3) / 4 * 4) * pad8 w)
    (hidx : ∀ x y, x < w → y < h → (image.getD (ci8Offset (pad8 w) x y) 0).toNat < palette.size / 2) :
    ∃ out, tplDecodeImage 2 palette 9 h w image = .ok out ∧ out.size = 4 * (h * w) ∧
      ∀ x y c, x < w → y < h → c < 4 →
        out.getD ((y * w + x) * 4 + c) 0 =
          chanByte (decodeRgb5a3 (be16At palette (2 * (image.getD (ci8Offset (pad8 w) x y) 0).toNat))) c := by
  obtain ⟨out, h1, h2, h3⟩ := ci8_decode palette image w h hw hh hp hi hidx
  exact ⟨out, h1, h2, fun x y c hx hy hc => by rw [h3 x y c hx hy hc, be16At_eq]⟩

/-- **The property's palette-image clause on output bytes**: the four bytes of pixel `(x, y)` are an
admissible rendering (RGB5A3 layout, one-step tolerance) of the palette entry selected by the
index at the 8×4 block position of `(x, y)`. -/
theorem ci8_pixel_spec (palette image : Buf) (w h : Nat) (hw : 0 < w) (hh : 0 < h)
    (hp : palette.size % 2 = 0) (hi : image.size = ((h + 3) / 4 * 4) * pad8 w)
    (hidx : ∀ x y, x < w → y < h → (image.getD (ci8Offset (pad8 w) x y) 0).toNat < palette.size / 2) :
    ∃ out, tplDecodeImage 2 palette 9 h w image = .ok out ∧ out.size = 4 * (h * w) ∧
      ∀ x y, x < w → y < h →
        let v := be16At palette (2 * (image.getD (ci8Offset (pad8 w) x y) 0).toNat)
        pixelOk (rgb5a3Layout v) v (out.getD ((y * w + x) * 4) 0).toNat (out.getD ((y * w + x) * 4 + 1) 0).toNat
          (out.getD ((y * w + x) * 4 + 2) 0).toNat (out.getD ((y * w + x) * 4 + 3) 0).toNat := by
  obtain ⟨out, h1, h2, h3⟩ := ci8_block_spec palette image w h hw hh hp hi hidx
  refine ⟨out, h1, h2, fun x y hx hy => ?_⟩
  obtain ⟨e0, e1, e2, e3⟩ := pixel_bytes (pixelOk_chan_lt (rgb5a3_spec _)) (fun c hc => h3 x y c hx hy hc)
  simp only []
  rw [e0, e1, e2, e3]
  exact rgb5a3_spec _

/-- **Profile independence.** With sides below 2^16 no `usize` computation of the decoders can
overflow: the overflow-checked and the wrapping build compute the same result, for every payload
and every format number. -/
theorem profile_independent (data : Buf) (w h fmt : Nat) (hwb : w < 2 ^ 16) (hhb : h < 2 ^ 16) :
    decodePixelData .checked data w h fmt = decodePixelData .wrapping data w h fmt := by
  have h1 : w * h < 2 ^ 32 := by
    have := Nat.mul_lt_mul'' hwb hhb
    simpa [← Nat.pow_add] using this
  have e1 : ∀ p, mulN 64 p 4 w = .ok (4 * w) := fun p => mulN_ok p (by omega)
  have e2 : ∀ p, mulN 64 p (4 * w) h = .ok (4 * w * h) := fun p =>
    mulN_ok p (by rw [Nat.mul_assoc]; omega)
  simp only [decodePixelData, decodeRgba, allocBmp_ok _ w h hwb hhb, Etc1.decode, e1, e2, Res.bind_ok]

/-- On the property's domain neither build panics (both succeed): tiled formats. -/
theorem no_panic_tiled (p : Profile) (data : Buf) (w h fmt : Nat) (l : Layout)
    (hl : layout fmt = some l) (hw : PowerOfTwoFrom8 w) (hh : PowerOfTwoFrom8 h)
    (hwb : w < 2 ^ 16) (hhb : h < 2 ^ 16) (hd : data.size = l.bytes * (w * h)) :
    decodePixelData p data w h fmt ≠ .panic := by
  obtain ⟨bmp, hb, _⟩ := decode_pixel p data w h fmt l hl hw hh hwb hhb hd
  simp [hb]

/-- On the property's domain neither build panics: ETC1 / ETC1A4 (D14 is this statement for the
overflow-checked build on blocks with a negative delta). -/
theorem no_panic_etc (p : Profile) (data : Buf) (w h : Nat) (alpha : Bool)
    (hw : PowerOfTwoFrom8 w) (hh : PowerOfTwoFrom8 h) (hwb : w < 2 ^ 16) (hhb : h < 2 ^ 16)
    (hd : data.size * 8 = (if alpha then 8 else 4) * (w * h)) :
    decodePixelData p data w h (if alpha then 13 else 12) ≠ .panic := by
  obtain ⟨bmp, hb, _⟩ := decode_pixel_etc p data w h alpha hw hh hwb hhb hd
  simp [hb]

/-- The hypotheses are satisfiable: 8, 16 and 128 are powers of two from 8 up, and an all-zero
payload of the required size exists for every format of the property. -/
example : PowerOfTwoFrom8 8 ∧ PowerOfTwoFrom8 16 ∧ PowerOfTwoFrom8 128 :=
  ⟨⟨3, by decide, by decide⟩, ⟨4, by decide, by decide⟩, ⟨7, by decide, by decide⟩⟩

example : (layout 2).isSome ∧ (Buf.zeros (2 * (16 * 8))).size = 2 * (16 * 8) := by
  simp [layout, Buf.zeros]

/-- A legal differential ETC1 block with a negative delta exists (base 5, delta −1 in every
channel): the D14 input. -/
example : Spec.Etc1.Legal (2 ^ 33 + 5 * 2 ^ 59 + 7 * 2 ^ 56 + 5 * 2 ^ 51 + 7 * 2 ^ 48 + 5 * 2 ^ 43 + 7 * 2 ^ 40) := by
  decide

end Mila.Props.C19
