/-
C02 — Bin archive serialization is canonical, deterministic and byte-stable.

Property theorems only (helper lemmas live in `MilaModel/Lemmas/Ser*.lean`).  The model
(`Mila.BinArchive.serialize` / `parse`) transcribes `src/bin_archive.rs`; the specification
(`Mila.Spec.Image.canonical`, written from the property statement: header totals; data with the
pointer words patched; internal pointer cells ascending, then string cells grouped by string in
first-use order; labels by address (little-endian) or by name list then address (big-endian); text
section = label names in table order then strings in first-use order, each distinct string once)
lives in `Spec/ArchiveImage.lean`.  The tie model <-> Rust is the `binser` correspondence stream.
-/
import MilaModel.Lemmas.SerRound
import MilaModel.Lemmas.SjisSub

namespace Mila.Props.C02
open Mila Mila.BinArchive Mila.Ser Mila.Spec.Image

/-- **`serialize` writes exactly the canonical image of the content** (no pending c-strings).
Needs only: annotated cells inside the data, every string encodable, data smaller than 4 GiB —
not even disjointness of the cells. -/
theorem serialize_eq_canonical (c : Codec) (a : BinArchive) (hC : a.cstrings = [])
    (hP : ∀ p ∈ a.pointers, p.1 + 4 ≤ a.size) (hT : ∀ p ∈ a.text, p.1 + 4 ≤ a.size)
    (encT : ∀ p ∈ a.text, ∃ b, c.enc p.2 = some b)
    (encL : ∀ p ∈ a.labels, ∀ n ∈ p.2, ∃ b, c.enc n = some b)
    (small : a.size < 2 ^ 32) :
    serialize c a = .ok (canonical c.enc a.endian (contentOf a)) := by
  rw [← contentPlus_of_no_cstrings c a hC]
  apply serialize_eq_canonical_plus
  exact {
    ptrIn := hP, textIn := hT
    cstrIn := by intro p hp; rw [hC] at hp; cases hp
    encText := encT, encLabels := encL
    encCStr := by intro p hp; rw [hC] at hp; cases hp
    small := by rw [cstrPool_nil c a hC]; exact small }

/-- With pending c-strings `serialize` writes the canonical image of `contentPlus` (the padded
c-string pool appended to the data, one internal pointer per c-string use). -/
theorem serialize_eq_canonical_cstrings (c : Codec) (D : Str → Prop) (a : BinArchive) (wf : ArchWF a)
    (hf : c.Faithful D) (dom : InDomain D a) (small : imageSize c a < 2 ^ 32) :
    serialize c a = .ok (canonical c.enc a.endian (contentPlus c a)) :=
  serialize_eq_canonical_plus c a
    (serDomain_of c D a wf hf dom (Nat.lt_of_le_of_lt (data_le_imageSize c a wf) small))

/-- **Whatever the hash state.**  Two archives that differ only in the iteration order of their
five hash maps (`PermEq`: each map a `List.Perm` of the other) serialize to the same result —
same bytes, or the same error.  Hypothesis `KeysOK`: every map has distinct keys (the `HashMap`
invariant), no cell carries two pointer-like annotations, and the codec separates the pending
c-strings.  (The proof fails exactly where a sort key is not unique: it needs the address
tie-break of the big-endian label order, fix D2.) -/
theorem serialize_perm (c : Codec) {a a' : BinArchive} (ok : KeysOK c a) (p : PermEq a a') :
    serialize c a = serialize c a' :=
  Ser.serialize_perm c ok p

/-- `serialize_perm` on the quantifier of the property: `KeysOK` follows from `ArchWF`, distinct
c-string keys (`HashMap` invariant) and a faithful codec. -/
theorem serialize_perm_domain (c : Codec) (D : Str → Prop) {a a' : BinArchive} (wf : ArchWF a)
    (ndC : (a.cstrings.map (·.1)).Nodup) (hf : c.Faithful D) (dom : InDomain D a)
    (p : PermEq a a') : serialize c a = serialize c a' :=
  Ser.serialize_perm c (keysOK_of c D a wf ndC hf dom) p

/-- **Archives with equal content serialize to identical bytes** (whatever calls built them):
equal content = same size, same raw bytes outside annotated cells, same strings / pointers as
finite maps, same label list per address (`ContentEq`); same endianness, no pending c-strings. -/
theorem serialize_content_determined (c : Codec) (D : Str → Prop) (a a' : BinArchive)
    (wf : ArchWF a) (wf' : ArchWF a') (hf : c.Faithful D) (dom : InDomain D a) (dom' : InDomain D a')
    (hC : a.cstrings = []) (hC' : a'.cstrings = []) (he : a.endian = a'.endian)
    (small : a.size < 2 ^ 32) (hK : ContentEq (contentOf a) (contentOf a')) :
    serialize c a = serialize c a' := by
  have hK' : (contentOf a).WF := by
    rw [← contentPlus_of_no_cstrings c a hC]; exact contentPlus_wf c a wf
  have small' : a'.data.length < 2 ^ 32 := hK.size ▸ small
  rw [serialize_eq_canonical_plus c a (serDomain_of c D a wf hf dom
      (by rw [cstrPool_nil c a hC]; exact small)),
    serialize_eq_canonical_plus c a' (serDomain_of c D a' wf' hf dom'
      (by rw [cstrPool_nil c a' hC']; exact small')),
    contentPlus_of_no_cstrings c a hC, contentPlus_of_no_cstrings c a' hC', ← he,
    canonical_congr c.enc a.endian hK' wf'.labelKeys hK]

/-- **Parsing any conforming image of `K` and serializing the result gives the canonical image of
`K`** (so every conforming file is normalised to the canonical one, and …) -/
theorem reserialize_conforming (c : Codec) (D : Str → Prop) (e : Endian) (f : Bytes) (K : Content)
    (hf : c.Faithful D) (wf : K.WF) (hS : ∀ p ∈ K.strings, D p.2)
    (hL : ∀ p ∈ K.labels, ∀ n ∈ p.2, D n) (hc : Conforms c.enc e f K) (small : f.length < 2 ^ 32) :
    ∃ b, parse c e f = .ok b ∧ serialize c b = .ok (canonical c.enc e K) :=
  Ser.reserialize_conforming ⟨hc, wf, hf, hS, hL⟩ small

/-- … **parsing then re-serializing a canonical file reproduces it byte for byte.** -/
theorem reserialize_canonical (c : Codec) (D : Str → Prop) (e : Endian) (K : Content)
    (hf : c.Faithful D) (wf : K.WF) (hS : ∀ p ∈ K.strings, D p.2)
    (hL : ∀ p ∈ K.labels, ∀ n ∈ p.2, D n) (small : (canonical c.enc e K).length < 2 ^ 32) :
    ∃ b, parse c e (canonical c.enc e K) = .ok b ∧ serialize c b = .ok (canonical c.enc e K) := by
  have hc : Conforms c.enc e (canonical c.enc e K) K :=
    canonical_conforms c.enc e K wf (fun p hp => enc_of_faithful hf (hS p hp))
      (fun p hp n hn => enc_of_faithful hf (hL p hp n hn)) small
  exact Ser.reserialize_conforming ⟨hc, wf, hf, hS, hL⟩ small

/-- The same for the image of an archive: serialize → parse → serialize is the identity on bytes
(strings and c-strings mixed: after the first pass the pool is ordinary data). -/
theorem reserialize_archive (c : Codec) (D : Str → Prop) (a : BinArchive) (wf : ArchWF a)
    (hf : c.Faithful D) (dom : InDomain D a) (small : imageSize c a < 2 ^ 32) :
    ∃ f b, serialize c a = .ok f ∧ parse c a.endian f = .ok b ∧ serialize c b = .ok f := by
  obtain ⟨f, hs, hlen, hc⟩ := Ser.serialize_conforms c D a wf hf dom small
  have ctx := ctx_of_archive c D a wf hf dom hc
  obtain ⟨b, hb, hsb⟩ := Ser.reserialize_conforming ctx (by rw [hlen]; exact small)
  refine ⟨f, b, hs, hb, ?_⟩
  rw [hsb]
  exact serialize_eq_canonical_cstrings c D a wf hf dom small ▸ hs

/-! ### non-vacuity -/

/-- Big-endian, two addresses carrying the *same* label list (the D2 tie), in two hash orders. -/
def exA : BinArchive :=
  ⟨List.replicate 8 7, [], [], [(4, [bs ['X']]), (0, [bs ['X']])], [], .big⟩
def exB : BinArchive :=
  ⟨List.replicate 8 7, [], [], [(0, [bs ['X']]), (4, [bs ['X']])], [], .big⟩

private theorem ex_keys : KeysOK sjisSub exA where
  text := by decide
  labels := by decide
  sources := by decide
  cstrKeys := by intro x hx; cases hx

private theorem ex_perm : PermEq exA exB where
  data := rfl
  endian := rfl
  text := List.Perm.refl _
  pointers := List.Perm.refl _
  labels := List.Perm.swap _ _ _
  cstrings := List.Perm.refl _

/-- The hypotheses of `serialize_perm` hold for a non-trivial pair (a genuine permutation, equal
big-endian sort keys). -/
example : serialize sjisSub exA = serialize sjisSub exB := serialize_perm sjisSub ex_keys ex_perm

/-- The hypotheses of `serialize_eq_canonical` hold for an archive with a string and a label. -/
example : serialize sjisSub ⟨List.replicate 8 0, [(0, bs ['h', 'i'])], [(4, 8)], [(8, [bs ['X']])], [], .little⟩
    = .ok (canonical sjisSub.enc .little ⟨List.replicate 8 0, [(0, bs ['h', 'i'])], [(4, 8)], [(8, [bs ['X']])]⟩) := by
  apply serialize_eq_canonical sjisSub _ rfl
  · decide
  · decide
  · intro p hp; simp at hp; subst hp; exact ⟨bs ['h', 'i'], by decide⟩
  · intro p hp n hn; simp at hp; subst hp; simp at hn; subst hn; exact ⟨bs ['X'], by decide⟩
  · decide

/-- A content with a string, a pointer to the end address and an end label (big-endian). -/
def exK : Content := ⟨List.replicate 8 0, [(0, bs ['h', 'i'])], [(4, 8)], [(8, [bs ['X']])]⟩

private def exD (s : Str) : Prop := s = bs ['h', 'i'] ∨ s = bs ['X']

private theorem exD_faithful : sjisSub.Faithful exD := by
  rintro s (rfl | rfl)
  · exact sjisSub_faithful _ ⟨[0x68, 0x69], by decide, by decide⟩
  · exact sjisSub_faithful _ ⟨[0x58], by decide, by decide⟩

/-- The hypotheses of `reserialize_canonical` hold for a non-trivial content. -/
example : ∃ b, parse sjisSub .big (canonical sjisSub.enc .big exK) = .ok b ∧
    serialize sjisSub b = .ok (canonical sjisSub.enc .big exK) := by
  apply reserialize_canonical sjisSub exD .big exK exD_faithful
  · exact ⟨by decide, by decide, by decide, by decide, by decide⟩
  · intro p hp; simp [exK] at hp; subst hp; exact Or.inl rfl
  · intro p hp n hn; simp [exK] at hp; subst hp; simp at hn; subst hn; exact Or.inr rfl
  · simp only [canonical, canonTextStart, textSection, stored, labelEntries, sortedLabels, sortedStrings,
      ptrTable, sortedPointers, stringGroups, canonData, labelTable, exK, List.mergeSort_singleton]
    decide

end Mila.Props.C02
