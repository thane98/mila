/-
C12 — Layered filesystem: top layer wins, writes stay on top, read-after-write
(+ the filesystem clause of C14: every operation applies the same path mapping).

Model: `Mila.LayeredFs` (transcribes `src/layered_filesystem.rs` over a
modelled POSIX tree; LZ and the typed codecs are abstract parameters `Env`).  Specification:
`Mila.Spec.Overlay` (directory walks, top-down search, frame predicates, configuration table),
written from the property statement.  Path strings range over the specification's domain
`Spec.Overlay.locOf p = some q` (relative paths of plain components, optional trailing slash,
empty string = layer root).  The tie model <-> Rust is the `fs` correspondence stream.
-/
import MilaModel.Lemmas.FsSuffix
import MilaModel.Lemmas.FsOps
import MilaModel.Props.C14
import MilaModel.Lemmas.ComposeLz

namespace Mila.Props.C12
open Mila Mila.LayeredFs Mila.Spec.Overlay

def gid : Spec.Loc.Game → GameId
  | .FE9 => .FE9 | .FE10 => .FE10 | .FE13 => .FE13 | .FE14 => .FE14 | .FE15 => .FE15
def mEndian : Endianness → Endian
  | .big => .big | .little => .little
def mText : TextEnc → TextFormat
  | .shiftJis => .shiftJis | .utf16 => .unicode
def mLz : LzFormat → LzKind
  | .lz10 => .lz10 | .lz13 => .lz13

/-- **Configuration table** (`:173-229`), decided completely: every supported game gets the
localizer of C14 and the endianness / text encoding / LZ format the property states; FE11 and FE12
are rejected. -/
theorem config_table :
    (∀ g : Spec.Loc.Game, LayeredFs.config (gid g) =
      some ⟨mLz (Spec.Overlay.config g).lz, C14.mg g, mEndian (Spec.Overlay.config g).endian,
            mText (Spec.Overlay.config g).text⟩) ∧
    LayeredFs.config .FE11 = none ∧ LayeredFs.config .FE12 = none := by
  refine ⟨?_, rfl, rfl⟩
  intro g; cases g <;> rfl

/-- The suffix test of the code is the specification's "path has the game's compressed suffix"
(`.cms`/`.cmp` for LZ10 games, `.lz` for LZ13 games), for every path. -/
theorem suffix_table (g : Spec.Loc.Game) (path : Bytes) :
    isCompressed (mLz (Spec.Overlay.config g).lz) path = hasCompressedSuffix g path := by
  cases g <;> simp [isCompressed, hasCompressedSuffix, Spec.Overlay.config, mLz, suffixes]

/-- `new` installs exactly that configuration, keeps the layers, and fails without layers. -/
theorem new_spec (layers : List Layer) (lang : Localize.Language) (g : Spec.Loc.Game) (h : layers ≠ []) :
    ∃ fs, LayeredFs.new layers lang (gid g) = .ok fs ∧ fs.layers = layers ∧ fs.lang = lang ∧
      fs.cfg = ⟨mLz (Spec.Overlay.config g).lz, C14.mg g, mEndian (Spec.Overlay.config g).endian,
                mText (Spec.Overlay.config g).text⟩ := by
  have hc := config_table.1 g
  have he : layers.isEmpty = false := by cases layers <;> simp_all
  unfold LayeredFs.new
  simp only [he, hc]
  exact ⟨_, rfl, rfl, rfl, rfl⟩

theorem new_rejects (lang : Localize.Language) (game : GameId) (layers : List Layer) :
    LayeredFs.new [] lang game = .err .Other ∧
    LayeredFs.new layers lang .FE11 ≠ .ok fs ∧ LayeredFs.new layers lang .FE12 ≠ .ok fs := by
  refine ⟨rfl, ?_, ?_⟩ <;> (unfold LayeredFs.new; cases layers <;> simp [LayeredFs.config])

/-- The reference search is the declarative "highest layer holding the file". -/
theorem topFile_isTop (ws : List Walk) (q : Loc) (b : Bytes) :
    topFile ws q = some b ↔ IsTopFile ws q b :=
  LayeredFs.topFile_isTop ws q b

theorem topFile_none (ws : List Walk) (q : Loc) :
    topFile ws q = none ↔ ∀ w ∈ ws, w.fileAt q = none :=
  LayeredFs.topFile_none ws q

/-- **read_top.** Reading a path of the domain returns the stored bytes of the highest-priority
layer in which the path is a regular file — decoded with the game's LZ format iff the path has the
compressed suffix — and `NotFound` if no layer has the file. -/
theorem read_top (E : Env) (fs : Fs) {p : Bytes} {q : Loc} (h : locOf p = some q) :
    fs.read E p false =
      match topFile (walksOf fs) q with
      | none => .err .NotFound
      | some s =>
        if isCompressed fs.cfg.lz p then reclass .Decoding ((E.lz fs.cfg.lz).decompress s) else .ok s := by
  unfold Fs.read Fs.actualPath
  simp only [Bool.false_eq_true, if_false]
  exact readAt_top E fs _ h

/-- Declarative form: the bytes of layer `w` are returned whenever no higher layer has the file;
a file in no layer is `NotFound`. -/
theorem read_top_declarative (E : Env) (fs : Fs) {p : Bytes} {q : Loc} (h : locOf p = some q)
    (hz : isCompressed fs.cfg.lz p = false) :
    (∀ b, IsTopFile (walksOf fs) q b → fs.read E p false = .ok b) ∧
    ((∀ w ∈ walksOf fs, w.fileAt q = none) → fs.read E p false = .err .NotFound) := by
  constructor
  · intro b hb
    rw [read_top E fs h, (topFile_isTop _ _ _).mpr hb]
    simp [hz]
  · intro hn
    rw [read_top E fs h, (topFile_none _ _).mpr hn]

/-- Localized read: the same search at the localized location; the suffix decision is taken on
the *unlocalised* path (`:274`). -/
theorem read_top_localized (E : Env) (fs : Fs) (g : Spec.Loc.Game) (lang : Spec.Loc.Language)
    (hg : fs.cfg.localizer = C14.mg g) (hl : fs.lang = C14.ml lang)
    (dir : List Bytes) (l : Bytes) (hd : ∀ c ∈ dir, Spec.Loc.Plain c) (hlp : Spec.Loc.Plain l) :
    fs.read E (joinWith Localize.slash (dir ++ [l])) true =
      match Spec.Loc.expected g lang dir l with
      | none => .err .Unsupported
      | some qs =>
        match locOf qs with
        | none => fs.readAt E qs (isCompressed fs.cfg.lz (joinWith Localize.slash (dir ++ [l])))
        | some q =>
          match topFile (walksOf fs) q with
          | none => .err .NotFound
          | some s =>
            if isCompressed fs.cfg.lz (joinWith Localize.slash (dir ++ [l]))
            then reclass .Decoding ((E.lz fs.cfg.lz).decompress s) else .ok s := by
  unfold Fs.read Fs.actualPath
  simp only [if_true, hg, hl, C14.localize_plain g lang dir l hd hlp]
  cases Spec.Loc.expected g lang dir l with
  | none => rfl
  | some qs =>
    simp only
    cases hq : locOf qs with
    | none => rfl
    | some q => exact readAt_top E fs _ hq

/-- **exists_same_search.** `exists`, `file_exists`, `directory_exists` hold iff some layer has the
path (as anything / a file / a directory); `resolve` names the highest layer in which it exists. -/
theorem exists_same_search (fs : Fs) {p : Bytes} {q : Loc} (h : locOf p = some q) :
    fs.exists_ p false = .ok (anyExists (walksOf fs) q) ∧
    fs.fileExists p false = .ok (anyFile (walksOf fs) q) ∧
    fs.directoryExists p false = .ok (anyDir (walksOf fs) q) ∧
    fs.resolve p false = (topExists (walksOf fs) q).map (fun i => (i, p)) := by
  refine ⟨?_, ?_, ?_, ?_⟩
  · exact exists_walks fs h
  · exact congrArg Res.ok (anyLayer_walks fs _ (fun w => (w.fileAt q).isSome) fun l => fileExists_eq l h)
  · exact congrArg Res.ok (anyLayer_walks fs _ (·.dirAt q) fun l => dirExists_eq l h)
  · simp only [Fs.resolve, Fs.actualPath_false, walksOf, topIndex_eq_topExists fs.layers h]

private theorem write_unfold (E : Env) (fs : Fs) (p b : Bytes) (loc : Bool) :
    fs.write E p b loc =
      match fs.actualPath p loc with
      | .err e => (fs, .err e)
      | .panic => (fs, .panic)
      | .ok a =>
        match encoded E fs p b with
        | .err e => (fs, .err e)
        | .panic => (fs, .panic)
        | .ok c => fs.writeAt a c := rfl

/-- **write_frame** (lower layers). Whatever the path, payload and outcome, a write leaves every
layer below the top one exactly as it was, and never adds or removes layers. -/
theorem write_frame (E : Env) (fs : Fs) (p b : Bytes) (loc : Bool) :
    (fs.write E p b loc).1.layers.dropLast = fs.layers.dropLast ∧
    (fs.write E p b loc).1.layers.length = fs.layers.length ∧
    (fs.write E p b loc).1.cfg = fs.cfg ∧ (fs.write E p b loc).1.lang = fs.lang :=
  (Fs.write_next E fs p b loc).frame

/-- **write_frame** (top layer). In the top layer a write of a domain path changes the entry at
that path only — to the file holding the encoded payload, and only if the write reports success —
except that missing ancestors of the path may have become directories (also when the write is then
rejected: `create_dir_all` has already run). -/
theorem write_frame_top (E : Env) (fs : Fs) {p : Bytes} {q : Loc} (h : locOf p = some q) (b : Bytes)
    (top : Layer) (htop : fs.layers.getLast? = some top) :
    ∃ top', (fs.write E p b false).1.layers.getLast? = some top' ∧
      ∀ x : Path,
        ((fs.write E p b false).2 = .ok () ∧ x = q.comps ∧
          ∃ s, encoded E fs p b = .ok s ∧ (walkOf top').at x = some (.file s)) ∨
        (walkOf top').at x = (walkOf top).at x ∨
        ((walkOf top).at x = none ∧ (walkOf top').at x = some .dir ∧ x ∈ properPrefixes q.comps) := by
  rcases Fs.write_cases E fs p b false with ⟨hst, _⟩ | ⟨a, c, top0, ha, hc, htop0, hst, hok⟩
  · exact ⟨top, by rw [hst]; exact htop, fun x => Or.inr (Or.inl rfl)⟩
  · cases ha
    cases htop.symm.trans htop0
    refine ⟨(top.write p c).1, by rw [hst]; exact Fs.setTop_getLast fs _, fun x => ?_⟩
    have hpp := parsePath_of_locOf h
    rcases Layer.write_get top p c x with ⟨h1, h2, h5⟩ | h2 | ⟨h1, h2, h3⟩
    · exact Or.inl ⟨hok.mpr h1, by rw [h2, hpp], c, hc, by rw [at_walkOf, h5]; rfl⟩
    · exact Or.inr (Or.inl (by rw [at_walkOf, at_walkOf, h2]))
    · refine Or.inr (Or.inr ⟨by rw [at_walkOf, h1]; rfl, by rw [at_walkOf, h2]; rfl, ?_⟩)
      rw [hpp] at h3
      rw [properPrefixes_eq_prefixes]; exact h3

/-- **When a write succeeds.** For a path of the domain whose payload can be encoded, the write
reports success exactly when the specification says the top layer can take the file: the path
names a file position (not the root, no trailing slash), no ancestor is a regular file in the top
layer, and the position is not a directory there.  Lower layers play no role. -/
theorem write_succeeds_iff (E : Env) (fs : Fs) {p : Bytes} {q : Loc} (h : locOf p = some q) (b s : Bytes)
    (top : Layer) (htop : fs.layers.getLast? = some top) (henc : encoded E fs p b = .ok s) :
    (fs.write E p b false).2 = .ok () ↔ writable (walkOf top) q = true := by
  simp only [write_unfold, Fs.actualPath_false, henc]
  rw [(Fs.writeAt_eq fs p s htop).2, Layer.write_ok_iff, parsePath_of_locOf h]
  unfold writable
  simp only [properPrefixes_eq_prefixes, Bool.and_eq_true, Bool.not_eq_true', List.isEmpty_eq_false_iff,
    List.all_eq_true, decide_eq_true_eq, notFile_walkOf, ne_eq, at_dir_iff]
  exact ⟨fun ⟨h1, h2, h3, h4⟩ => ⟨⟨⟨h3, h2⟩, h1⟩, h4⟩, fun ⟨⟨⟨h3, h2⟩, h1⟩, h4⟩ => ⟨h1, h2, h3, h4⟩⟩

/-- **When `create_dir` succeeds**: exactly when no component on the way (the path itself
included) is a regular file in the top layer. -/
theorem createDir_succeeds_iff (fs : Fs) {p : Bytes} {q : Loc} (h : locOf p = some q)
    (top : Layer) (htop : fs.layers.getLast? = some top) :
    (fs.createDir p false).2 = .ok () ↔ dirCreatable (walkOf top) q = true := by
  rw [(Fs.createDir_eq fs (Fs.actualPath_false fs p) htop).2, Layer.createDir_ok_iff, parsePath_of_locOf h]
  unfold dirCreatable
  simp only [List.all_eq_true, notFile_walkOf, Bool.not_eq_true']
  by_cases hc : q.comps = []
  · simp [hc, prefixes, properPrefixes, Layer.isFileNode]
  · rw [prefixes_eq _ hc]

theorem createDir_frame (fs : Fs) (p : Bytes) (loc : Bool) :
    (fs.createDir p loc).1.layers.dropLast = fs.layers.dropLast ∧
    (fs.createDir p loc).1.layers.length = fs.layers.length ∧
    (fs.createDir p loc).1.cfg = fs.cfg ∧ (fs.createDir p loc).1.lang = fs.lang :=
  (Fs.createDir_next fs p loc).frame

/-- Sequential composition of a byte-level read with a codec (`?` after `read`, then the parser). -/
def thenParse {α : Type} (r : Res Bytes) (parse : Bytes → Res α) : Res α :=
  match r with
  | .ok bytes => reclass .Invalid (parse bytes)
  | .err e => .err e
  | .panic => .panic

/-- **typed_helpers.** For a filesystem configured for game `g`, every typed reader is the
byte-level `read` followed by the codec the property names for that game (big-endian / Shift-JIS
for FE9/FE10, little-endian / UTF-16 for FE13–FE15; pack, arc and texture parsers are
game-independent), and the archive writers are `serialize` followed by the byte-level `write`. -/
theorem typed_helpers (E : Env) (fs : Fs) (g : Spec.Loc.Game)
    (hcfg : fs.cfg = ⟨mLz (Spec.Overlay.config g).lz, C14.mg g, mEndian (Spec.Overlay.config g).endian,
                      mText (Spec.Overlay.config g).text⟩)
    (p : Bytes) (loc : Bool) :
    fs.readArchive E p loc = thenParse (fs.read E p loc) (E.binParse (mEndian (Spec.Overlay.config g).endian)) ∧
    fs.readTextArchive E p loc = thenParse (fs.read E p loc)
      (E.txtParse (mText (Spec.Overlay.config g).text) (mEndian (Spec.Overlay.config g).endian)) ∧
    fs.readFe9Arc E p loc = thenParse (fs.read E p loc) E.packParse ∧
    fs.readArc E p loc = thenParse (fs.read E p loc) E.arcParse ∧
    fs.readTplTextures E p loc = thenParse (fs.read E p loc) E.tplParse ∧
    fs.readBchTextures E p loc = thenParse (fs.read E p loc) E.bchParse ∧
    fs.readCtpkTextures E p loc = thenParse (fs.read E p loc) E.ctpkParse ∧
    fs.readCgfxTextures E p loc = thenParse (fs.read E p loc) E.cgfxParse ∧
    (∀ a bytes, E.binSer a = .ok bytes → fs.writeArchive E p a loc = fs.write E p bytes loc) ∧
    (∀ t bytes, E.txtSer t = .ok bytes → fs.writeTextArchive E p t loc = fs.write E p bytes loc) ∧
    (∀ a, E.binSer a ≠ .panic → (∀ bytes, E.binSer a ≠ .ok bytes) → fs.writeArchive E p a loc = (fs, .err .Invalid)) := by
  have he : fs.cfg.endian = mEndian (Spec.Overlay.config g).endian := by rw [hcfg]
  have ht : fs.cfg.text = mText (Spec.Overlay.config g).text := by rw [hcfg]
  refine ⟨?_, ?_, rfl, rfl, rfl, rfl, rfl, rfl, ?_, ?_, ?_⟩
  · unfold Fs.readArchive; rw [he]; rfl
  · unfold Fs.readTextArchive; rw [he, ht]; rfl
  · intro a bytes h; simp [Fs.writeArchive, Fs.serThenWrite, h, reclass]
  · intro t bytes h; simp [Fs.writeTextArchive, Fs.serThenWrite, h, reclass]
  · intro a h1 h2
    unfold Fs.writeArchive Fs.serThenWrite
    cases hs : E.binSer a with
    | ok bytes => exact absurd hs (h2 bytes)
    | err e => rfl
    | panic => exact absurd hs h1

/-- **ops_commute** (the filesystem clause of C14).  When the localizer maps `p` to `a`, every
operation with `localized = true` on `p` is the unlocalised operation on `a` — existence queries,
`resolve`, `create_dir`, listings and sub-directory listings unconditionally; `read` and `write`
address the same on-disk location and differ from the unlocalised call only in that the
compressed-suffix decision is taken on the unlocalised name (`:274`, `:415`), so they coincide
whenever `p` and `a` agree on the suffix. -/
theorem ops_commute (E : Env) (fs : Fs) (p a : Bytes)
    (h : Localize.localize fs.cfg.localizer fs.lang p = .ok a) :
    fs.exists_ p true = fs.exists_ a false ∧
    fs.fileExists p true = fs.fileExists a false ∧
    fs.directoryExists p true = fs.directoryExists a false ∧
    fs.resolve p true = fs.resolve a false ∧
    fs.createDir p true = fs.createDir a false ∧
    (∀ pat, fs.list p pat true = fs.list a pat false) ∧
    fs.subdirectories p true = fs.subdirectories a false ∧
    fs.read E p true = fs.readAt E a (isCompressed fs.cfg.lz p) ∧
    fs.read E a false = fs.readAt E a (isCompressed fs.cfg.lz a) ∧
    (∀ b, fs.write E p b true =
      match encoded E fs p b with
      | .ok c => fs.writeAt a c
      | .err e => (fs, .err e)
      | .panic => (fs, .panic)) ∧
    (isCompressed fs.cfg.lz p = isCompressed fs.cfg.lz a →
      fs.read E p true = fs.read E a false ∧ ∀ b, fs.write E p b true = fs.write E a b false) := by
  have hT : fs.actualPath p true = .ok a := h
  have hF : fs.actualPath a false = .ok a := rfl
  refine ⟨?_, ?_, ?_, ?_, ?_, ?_, ?_, ?_, ?_, ?_, ?_⟩
  · simp only [Fs.exists_, Fs.query, hT, hF]
  · simp only [Fs.fileExists, Fs.query, hT, hF]
  · simp only [Fs.directoryExists, Fs.query, hT, hF]
  · simp only [Fs.resolve, hT, hF]
  · simp only [Fs.createDir, hT, hF]
  · intro pat; simp only [Fs.list, hT, hF]
  · simp only [Fs.subdirectories, hT, hF]
  · simp only [Fs.read, hT]
  · simp only [Fs.read, hF]
  · intro b; rw [write_unfold]; simp only [hT]; cases encoded E fs p b <;> rfl
  · exact Fs.localized_eq E fs hT

/-- A path the localizer rejects (unsupported language, no final component) makes every localized
operation fail with that error — `resolve` answers `None` — and changes nothing. -/
theorem ops_localize_error (E : Env) (fs : Fs) (p : Bytes) (e : Err)
    (h : Localize.localize fs.cfg.localizer fs.lang p = .err e) :
    fs.read E p true = .err e ∧ fs.exists_ p true = .err e ∧ fs.fileExists p true = .err e ∧
    fs.directoryExists p true = .err e ∧ fs.resolve p true = none ∧
    (∀ b, fs.write E p b true = (fs, .err e)) ∧ fs.createDir p true = (fs, .err e) ∧
    (∀ pat, fs.list p pat true = .err e) ∧ fs.subdirectories p true = .err e := by
  have hT : fs.actualPath p true = .err e := h
  refine ⟨?_, ?_, ?_, ?_, ?_, ?_, ?_, ?_, ?_⟩
  · simp only [Fs.read, hT]
  · simp only [Fs.exists_, Fs.query, hT]
  · simp only [Fs.fileExists, Fs.query, hT]
  · simp only [Fs.directoryExists, Fs.query, hT]
  · simp only [Fs.resolve, hT]
  · intro b; rw [write_unfold]; simp only [hT]
  · simp only [Fs.createDir, hT]
  · intro pat; simp only [Fs.list, hT]
  · simp only [Fs.subdirectories, hT]

/-- For every supported game and language and every path `dir/…/l` of plain components with a
non-empty directory part, the localised path keeps the compressed-suffix decision; hence (with
`ops_commute`) localized `read`/`write` *are* the unlocalised calls on the localised path. -/
theorem read_write_localized (E : Env) (fs : Fs) (g : Spec.Loc.Game) (lang : Spec.Loc.Language)
    (hg : fs.cfg.localizer = C14.mg g) (hl : fs.lang = C14.ml lang)
    (dir : List Bytes) (l qs : Bytes) (hdir : dir ≠ [])
    (hd : ∀ c ∈ dir, Spec.Loc.Plain c) (hlp : Spec.Loc.Plain l)
    (hq : Spec.Loc.expected g lang dir l = some qs) :
    fs.read E (joinWith Localize.slash (dir ++ [l])) true = fs.read E qs false ∧
    ∀ b, fs.write E (joinWith Localize.slash (dir ++ [l])) b true = fs.write E qs b false := by
  have hloc : Localize.localize fs.cfg.localizer fs.lang (joinWith Localize.slash (dir ++ [l])) = .ok qs := by
    rw [hg, hl, C14.localize_plain g lang dir l hd hlp, hq]
  have hz := isCompressed_localized fs.cfg.lz g lang dir l qs hdir hq
  exact Fs.localized_eq E fs hloc hz.symm

/-- **write_frame over histories.** No sequence of writes, directory creations and archive writes
(successful or rejected, localized or not, any paths and payloads) ever modifies, creates or
deletes anything in a layer below the top one; the configuration never changes. -/
theorem history_frame (E : Env) (fs : Fs) (ops : List (Op E)) :
    (run E fs ops).layers.dropLast = fs.layers.dropLast ∧
    (run E fs ops).layers.length = fs.layers.length ∧
    (run E fs ops).cfg = fs.cfg ∧ (run E fs ops).lang = fs.lang := by
  induction ops generalizing fs with
  | nil => exact ⟨rfl, rfl, rfl, rfl⟩
  | cons op rest ih =>
    obtain ⟨h1, h2, h3, h4⟩ := (step_next E fs op).frame
    obtain ⟨i1, i2, i3, i4⟩ := ih (step E fs op)
    exact ⟨i1.trans h1, i2.trans h2, i3.trans h3, i4.trans h4⟩

/-- The LZ round trip the filesystem relies on for compressed suffixes: properties C08/C09 (the
compressor's output decodes to its input) and C11 (the decoder), proved in their own modules. -/
def LzRoundTrip (z : Lz) : Prop := ∀ b c, z.compress b = .ok c → z.decompress c = .ok b

private theorem decode_encoded (E : Env) (fs : Fs) (p b c : Bytes) (hc : encoded E fs p b = .ok c)
    (hrt : isCompressed fs.cfg.lz p = true →
      ∀ c, (E.lz fs.cfg.lz).compress b = .ok c → (E.lz fs.cfg.lz).decompress c = .ok b) :
    (if isCompressed fs.cfg.lz p then reclass .Decoding ((E.lz fs.cfg.lz).decompress c) else .ok c) = .ok b := by
  unfold encoded at hc
  by_cases hz : isCompressed fs.cfg.lz p = true
  · rw [if_pos hz, reclass_eq_ok] at hc
    rw [if_pos hz, hrt hz c hc]; rfl
  · rw [if_neg hz] at hc ⊢
    cases hc; rfl

/-- `read_after_write_history` with the LZ round trip required of the written payload only (which
is all that the 24-bit length field of the real formats allows). -/
theorem read_after_write_history_payload (E : Env) (fs fs1 : Fs) (p b : Bytes) (loc : Bool)
    (ops : List (Op E))
    (hrt : isCompressed fs.cfg.lz p = true →
      ∀ c, (E.lz fs.cfg.lz).compress b = .ok c → (E.lz fs.cfg.lz).decompress c = .ok b)
    (h : fs.write E p b loc = (fs1, .ok ()))
    (hops : ∀ op ∈ ops, Op.target E fs op ≠ fs.target p loc) :
    (run E fs1 ops).read E p loc = .ok b := by
  obtain ⟨a, c, top, ha, hc, htop, hw, rfl⟩ := Fs.write_ok_cases E fs fs1 p b loc h
  obtain ⟨_, hmd, hget⟩ := Layer.write_ok top a c hw
  rw [Fs.target_of_ok ha] at hops
  -- the later operations leave the written file in the top layer and the configuration alone
  obtain ⟨t, ht1, ht2⟩ := run_keeps E (fs := fs.setTop (top.write a c).1) ops
    (fun op hop => opTarget_congr E rfl rfl op ▸ hops op hop) (Fs.setTop_getLast fs _) hget
  obtain ⟨_, _, c1, c2⟩ := history_frame E (fs.setTop (top.write a c).1) ops
  have hstat : t.stat a = some (.file c) := by simp [Layer.stat, ht2, hmd]
  simp only [Fs.read, (Fs.actualPath_congr c1 c2 p loc).trans ha]
  rw [Fs.readAt_top_file E _ t a c _ ht1 hstat, c1]
  exact decode_encoded E fs p b c hc hrt

/-- **read_after_write over histories.** After a successful write of `b` at `p`, any further
history of state-changing operations that does not target the same location (the components of
its localised path differ) leaves the read result unchanged: reading `p` still returns `b`.
Read-only operations do not change the state at all (they return no state). -/
theorem read_after_write_history (E : Env) (fs fs1 : Fs) (p b : Bytes) (loc : Bool) (ops : List (Op E))
    (hrt : isCompressed fs.cfg.lz p = true → LzRoundTrip (E.lz fs.cfg.lz))
    (h : fs.write E p b loc = (fs1, .ok ()))
    (hops : ∀ op ∈ ops, Op.target E fs op ≠ (fs.actualPath p loc).toOption.map (fun a => (parsePath a).comps)) :
    (run E fs1 ops).read E p loc = .ok b :=
  read_after_write_history_payload E fs fs1 p b loc ops (fun hz c => hrt hz b c) h hops

/-- `read_after_write` with the LZ round trip required of the written payload only. -/
theorem read_after_write_payload (E : Env) (fs fs' : Fs) (p b : Bytes) (loc : Bool)
    (hrt : isCompressed fs.cfg.lz p = true →
      ∀ c, (E.lz fs.cfg.lz).compress b = .ok c → (E.lz fs.cfg.lz).decompress c = .ok b)
    (h : fs.write E p b loc = (fs', .ok ())) :
    fs'.read E p loc = .ok b :=
  read_after_write_history_payload E fs fs' p b loc [] hrt h (by simp)

/-- **read_after_write.** After a successful write, reading the same path with the same
localisation choice returns exactly the written bytes; for paths with the compressed suffix this
rests on the LZ round trip (named hypothesis; C08/C09/C11).  No domain restriction on the path. -/
theorem read_after_write (E : Env) (fs fs' : Fs) (p b : Bytes) (loc : Bool)
    (hrt : isCompressed fs.cfg.lz p = true → LzRoundTrip (E.lz fs.cfg.lz))
    (h : fs.write E p b loc = (fs', .ok ())) :
    fs'.read E p loc = .ok b :=
  read_after_write_history_payload E fs fs' p b loc [] (fun hz c => hrt hz b c) h (by simp)

/-- For a path with the compressed suffix the stored file is the compressor's output for the
payload (a valid compressed stream by C08/C09), in the top layer, at the localised location. -/
theorem stored_is_compressed (E : Env) (fs fs' : Fs) (p b : Bytes) (loc : Bool)
    (hz : isCompressed fs.cfg.lz p = true) (h : fs.write E p b loc = (fs', .ok ())) :
    ∃ a c top', fs.actualPath p loc = .ok a ∧ (E.lz fs.cfg.lz).compress b = .ok c ∧
      fs'.layers.getLast? = some top' ∧ top'.read a = .ok c := by
  obtain ⟨a, c, top, ha, hc, htop, hw, rfl⟩ := Fs.write_ok_cases E fs fs' p b loc h
  rw [encoded, if_pos hz, reclass_eq_ok] at hc
  exact ⟨a, c, _, ha, hc, Fs.setTop_getLast fs _, by simp [Layer.read, Layer.stat_after_write top a c hw]⟩

/-- A toy LZ: "compression" prepends a tag byte. -/
private def demoLz : Lz :=
  ⟨fun b => .ok (0x13 :: b), fun c => match c with | 0x13 :: b => .ok b | _ => .err .Decoding⟩

private def demoEnv : Env where
  lz10 := demoLz
  lz13 := demoLz
  Bin := Bytes
  Txt := Bytes
  Pack := Bytes
  Arc := Bytes
  Tex := Bytes
  binParse := fun _ b => .ok b
  binSer := fun b => .ok b
  txtParse := fun _ _ b => .ok b
  txtSer := fun b => .ok b
  packParse := fun b => .ok b
  arcParse := fun b => .ok b
  tplParse := fun b => .ok b
  bchParse := fun b => .ok b
  ctpkParse := fun b => .ok b
  cgfxParse := fun b => .ok b

/-- Two layers: the lower one holds `m/@E/x.lz` (compressed `[1]`) and `f`; the top one holds a
directory `f` and nothing else. FE14, English (NA). -/
private def demoFs : Fs :=
  ⟨[[([bs ['m']], .dir), ([bs ['m'], bs ['@', 'E']], .dir),
     ([bs ['m'], bs ['@', 'E'], bs ['x', '.', 'l', 'z']], .file [0x13, 1]), ([bs ['f']], .file [9])],
    [([bs ['f']], .dir)]],
   .FE14, ⟨.lz13, .FE14, .little, .unicode⟩, .EnglishNA⟩

example : LzRoundTrip demoLz := by
  intro b c h
  simp only [demoLz, Res.ok.injEq] at h
  subst h; rfl

example : locOf (bs ['m', '/', '@', 'E', '/', 'x', '.', 'l', 'z']) =
    some ⟨[bs ['m'], bs ['@', 'E'], bs ['x', '.', 'l', 'z']], false⟩ := rfl

/-- `read_top` / `read_top_localized` in action: the lower layer's file is found and decoded; the
path `f` is a directory on top and a file below, and the file is read. -/
example : demoFs.read demoEnv (bs ['m', '/', 'x', '.', 'l', 'z']) true = .ok [1] ∧
    demoFs.read demoEnv (bs ['f']) false = .ok [9] ∧
    demoFs.read demoEnv (bs ['n', 'o']) false = .err .NotFound := ⟨rfl, rfl, rfl⟩

/-- `read_after_write` / `write_frame` in action: a localized write of a compressed name goes to
the top layer (creating `m/@E` there), the lower layer is untouched, reading returns the payload. -/
example :
    let r := demoFs.write demoEnv (bs ['m', '/', 'x', '.', 'l', 'z']) [7, 7] true
    r.2 = .ok () ∧ r.1.layers.dropLast = demoFs.layers.dropLast ∧
    r.1.layers.getLast? = some [([bs ['f']], .dir), ([bs ['m']], .dir), ([bs ['m'], bs ['@', 'E']], .dir),
      ([bs ['m'], bs ['@', 'E'], bs ['x', '.', 'l', 'z']], .file [0x13, 7, 7])] ∧
    r.1.read demoEnv (bs ['m', '/', 'x', '.', 'l', 'z']) true = .ok [7, 7] := ⟨rfl, rfl, rfl, rfl⟩

/-! ### composition with C08 / C09 / C10 / C11: the LZ hypothesis discharged

`read_after_write` takes the LZ round trip of the abstract environment as a hypothesis over *all*
payloads.  The real formats store the length in 24 bits, so the round trip holds for payloads
shorter than 16 MiB (C08 `lz10_roundtrip`, C09 `lz13_roundtrip`; the empty payload included) — so
`read_after_write_history_payload` is instantiated with the concrete LZ models (`Compose.realLz`:
`Model/Lz.lean` behind a `List`/`Array` adapter), where the hypothesis becomes "the payload is
shorter than 16 MiB". -/

/-- **The concrete LZ instance round-trips** (C08, C09, C11 on byte lists): for either format and
every payload shorter than 16 MiB, the empty one included, decompressing what the compressor
returned gives the payload back. -/
theorem lz_roundtrip_real (k : LzKind) (b : Bytes) (hb : b.length < 2 ^ 24) :
    ∀ c, (Compose.realLz k).compress b = .ok c → (Compose.realLz k).decompress c = .ok b :=
  Compose.realLz_roundtrip k b hb

/-- **read_after_write over histories, LZ discharged.** -/
theorem read_after_write_history_lz (E : Env) (hE : ∀ k, E.lz k = Compose.realLz k) (fs fs1 : Fs)
    (p b : Bytes) (loc : Bool) (ops : List (Op E))
    (hb : isCompressed fs.cfg.lz p = true → b.length < 2 ^ 24)
    (h : fs.write E p b loc = (fs1, .ok ()))
    (hops : ∀ op ∈ ops, Op.target E fs op ≠ (fs.actualPath p loc).toOption.map (fun a => (parsePath a).comps)) :
    (run E fs1 ops).read E p loc = .ok b :=
  read_after_write_history_payload E fs fs1 p b loc ops
    (fun hz => by rw [hE]; exact Compose.realLz_roundtrip _ b (hb hz)) h hops

/-- **read_after_write, LZ discharged.**  In every environment whose LZ slots are the concrete LZ10 /
LZ13 models, after a successful write reading the same path with the same localisation choice
returns exactly the written bytes — for a path with the compressed suffix provided the payload is
shorter than 16 MiB; no condition otherwise. -/
theorem read_after_write_lz (E : Env) (hE : ∀ k, E.lz k = Compose.realLz k) (fs fs' : Fs)
    (p b : Bytes) (loc : Bool) (hb : isCompressed fs.cfg.lz p = true → b.length < 2 ^ 24)
    (h : fs.write E p b loc = (fs', .ok ())) :
    fs'.read E p loc = .ok b :=
  read_after_write_history_lz E hE fs fs' p b loc [] hb h (by simp)

/-- With the concrete compressors the encoding stage of `write` never fails (C08 `lz10_total`,
C09 `lz13_total`): a write of a domain path succeeds exactly when the top layer can take the file. -/
theorem write_succeeds_iff_lz (E : Env) (hE : ∀ k, E.lz k = Compose.realLz k) (fs : Fs) {p : Bytes}
    {q : Loc} (h : locOf p = some q) (b : Bytes) (top : Layer) (htop : fs.layers.getLast? = some top) :
    (fs.write E p b false).2 = .ok () ↔ writable (walkOf top) q = true := by
  have henc : ∃ s, encoded E fs p b = .ok s := by
    unfold encoded
    by_cases hz : isCompressed fs.cfg.lz p = true
    · obtain ⟨c, hc⟩ := Compose.realLz_compress_total fs.cfg.lz b
      exact ⟨c, by rw [if_pos hz, reclass_eq_ok, hE, hc]⟩
    · exact ⟨b, if_neg hz⟩
  obtain ⟨s, hs⟩ := henc
  exact write_succeeds_iff E fs h b s top htop hs

/-- **Stored size (C10 ∘ `stored_is_compressed`).**  After a successful write on a path with the
compressed suffix, the file stored in the top layer (at the localised location) is at most the
format's header (`Compose.lzHeaderLen`: 4 bytes for LZ10; 8 for LZ13, 12 for the empty payload),
the payload length `n` and one flag byte per eight payload bytes. -/
theorem stored_size_bound_lz (E : Env) (hE : ∀ k, E.lz k = Compose.realLz k) (fs fs' : Fs)
    (p b : Bytes) (loc : Bool) (hz : isCompressed fs.cfg.lz p = true)
    (h : fs.write E p b loc = (fs', .ok ())) :
    ∃ a c top', fs.actualPath p loc = .ok a ∧ fs'.layers.getLast? = some top' ∧ top'.read a = .ok c ∧
      c.length ≤ Compose.lzHeaderLen fs.cfg.lz b.length + b.length + (b.length + 7) / 8 := by
  obtain ⟨a, c, top', ha, hc, htop, hr⟩ := stored_is_compressed E fs fs' p b loc hz h
  rw [hE] at hc
  exact ⟨a, c, top', ha, htop, hr, Compose.realLz_size_bound _ b c hc⟩

/-! Non-vacuity: an environment with the concrete LZ instance, and a write on a compressed path
whose success follows from `write_succeeds_iff_lz`; the composed theorems then apply. -/

example : ∀ k, (Compose.withRealLz demoEnv).lz k = Compose.realLz k := Compose.withRealLz_lz demoEnv

example : ∃ fs', demoFs.write (Compose.withRealLz demoEnv) (bs ['y', '.', 'l', 'z']) [7, 7, 7, 7, 7] false
      = (fs', .ok ()) ∧
    fs'.read (Compose.withRealLz demoEnv) (bs ['y', '.', 'l', 'z']) false = .ok [7, 7, 7, 7, 7] := by
  have hE := Compose.withRealLz_lz demoEnv
  have hloc : locOf (bs ['y', '.', 'l', 'z']) = some ⟨[bs ['y', '.', 'l', 'z']], false⟩ := by decide
  have hok := (write_succeeds_iff_lz (Compose.withRealLz demoEnv) hE demoFs hloc [7, 7, 7, 7, 7]
    [([bs ['f']], .dir)] (by decide)).mpr (by decide)
  refine ⟨(demoFs.write (Compose.withRealLz demoEnv) (bs ['y', '.', 'l', 'z']) [7, 7, 7, 7, 7] false).1,
    Prod.ext rfl hok, ?_⟩
  exact read_after_write_lz _ hE demoFs _ _ _ false (fun _ => by decide) (Prod.ext rfl hok)

/-! The tree invariant `Layer.Closed`: it holds of real directory walks and along every history, and
on it the model's one-step lookup in a layer is the kernel's component-wise path walk. -/

/-- **Initial layers.** A layer whose directory walk is the walk of a real tree (no path twice, root
not listed, the parent of every entry listed as a directory — what the harness' walks and initial
trees satisfy; decidable, `Layer.isTreeB`) satisfies the tree invariant `Layer.Closed`: every stored
path's proper prefixes are stored directories, no path is stored twice, nothing below a file. -/
theorem initial_closed (layers : List Layer) (h : ∀ l ∈ layers, (walkOf l).IsTree) :
    ∀ l ∈ layers, l.Closed := fun l hl => Layer.closed_of_isTree l (h l hl)

/-- **One operation keeps the invariant**: `write` (also a rejected write that has already created
leading directories), `create_dir`, the archive writers — any path, payload, localisation flag. -/
theorem step_closed (E : Env) (fs : Fs) (op : Op E) (hwf : ∀ l ∈ fs.layers, l.Closed) :
    ∀ l ∈ (step E fs op).layers, l.Closed :=
  (step_next E fs op).closed hwf

/-- **history_closed.** Every history of state-changing operations (read-only operations return no
state) keeps every layer a directory tree.  No domain restriction on paths. -/
theorem history_closed (E : Env) (fs : Fs) (ops : List (Op E)) (hwf : ∀ l ∈ fs.layers, l.Closed) :
    ∀ l ∈ (run E fs ops).layers, l.Closed :=
  List.foldlRecOn ops (step E) hwf fun s hs op _ => step_closed E s op hs

/-- From real directory walks, along any history. -/
theorem history_closed_of_walks (E : Env) (fs : Fs) (ops : List (Op E))
    (h : ∀ l ∈ fs.layers, (walkOf l).IsTree) : ∀ l ∈ (run E fs ops).layers, l.Closed :=
  history_closed E fs ops (initial_closed fs.layers h)

/-- `stat` with the kernel's component-wise path walk (every ancestor must be a directory). -/
def statPosix (l : Layer) (path : Bytes) : Option Node :=
  match l.posixGet (parsePath path).comps with
  | some .dir => some .dir
  | some (.file b) => if (parsePath path).mustDir then none else some (.file b)
  | none => none

/-- **stat_is_path_walk.** The model's `stat` looks a path up in one step in the flat map; on a
layer satisfying the tree invariant this *is* the kernel's path walk, for every path string.  This
is the only place the model relies on the invariant; `history_closed` supplies it for every
reachable state. -/
theorem stat_is_path_walk (l : Layer) (hc : l.Closed) (path : Bytes) : l.stat path = statPosix l path := by
  unfold Layer.stat statPosix
  rw [Layer.posixGet_eq_get hc]
  dsimp only
  cases l.get (parsePath path).comps with
  | none => rfl
  | some n => cases n <;> rfl

/-- **read_top with the kernel's reading of the walks.** On closed layers (every reachable state,
`history_closed`) `read` returns the bytes of the highest layer in which the *path walk* reaches a
regular file. -/
theorem read_top_posix (E : Env) (fs : Fs) (hwf : ∀ l ∈ fs.layers, l.Closed)
    {p : Bytes} {q : Loc} (h : locOf p = some q) :
    fs.read E p false =
      match topFilePosix (walksOf fs) q with
      | none => .err .NotFound
      | some s =>
        if isCompressed fs.cfg.lz p then reclass .Decoding ((E.lz fs.cfg.lz).decompress s) else .ok s := by
  rw [topFilePosix_walksOf fs hwf]
  exact read_top E fs h

/-- A layer that is *not* a tree: a regular file `a` and a stale entry `a/b` below it. -/
private def brokenLayer : Layer :=
  [([bs ['a']], .file [1]), ([bs ['a'], bs ['b']], .file [2])]

/-- **The dependence is real.** On a non-closed layer the model's one-step lookup finds `a/b`
although the kernel's path walk stops at the regular file `a` (ENOTDIR): `stat` and `statPosix`
disagree, and `read` returns bytes where the path-walk reading of the same walk says NotFound.
Such layers are unreachable (`history_closed`); `Layer.isTreeB` rejects this one. -/
example :
    ¬ brokenLayer.Closed ∧ brokenLayer.isTreeB = false ∧
    brokenLayer.stat (bs ['a', '/', 'b']) = some (.file [2]) ∧
    statPosix brokenLayer (bs ['a', '/', 'b']) = none ∧
    (⟨[brokenLayer], .FE14, ⟨.lz13, .FE14, .little, .unicode⟩, .EnglishNA⟩ : Fs).read demoEnv (bs ['a', '/', 'b']) false = .ok [2] ∧
    topFilePosix [walkOf brokenLayer] ⟨[bs ['a'], bs ['b']], false⟩ = none := by
  refine ⟨?_, by decide, by decide, by decide, by decide, by decide⟩
  intro hc
  have := hc.parents ([bs ['a'], bs ['b']], .file [2]) (by simp [brokenLayer]) [bs ['a']]
    ⟨by simp, by simp [bs], by simp⟩
  revert this; decide

/-- Non-vacuity of the invariant: the demo filesystem's layers are trees (checked by the executable
test), and stay so after a write that creates `m/@E` in the top layer. -/
example : (∀ l ∈ demoFs.layers, l.Closed) ∧
    ∀ l ∈ (run demoEnv demoFs [.write (bs ['m', '/', 'x', '.', 'l', 'z']) [7, 7] true,
                               .createDir (bs ['f', '/', 'g']) false]).layers, l.Closed := by
  have h0 : ∀ l ∈ demoFs.layers, l.Closed := by
    intro l hl
    apply Layer.closed_of_isTreeB
    simp only [demoFs, List.mem_cons, List.mem_nil_iff, or_false] at hl
    rcases hl with rfl | rfl <;> decide
  exact ⟨h0, history_closed demoEnv demoFs _ h0⟩

end Mila.Props.C12
