/-
C08 — LZ10 compression emits a valid stream that expands to the input.

Model: `Mila.Lz.compress10` (src/lz10.rs:16-63) with `occurrence` (src/lz13.rs:7-38);
library decoder model `decompress10`.  Specification: `Mila.Spec.Lz` (`Encodes false`, `Valid false`,
`expand`).  The compressor's loop keeps the invariant that the bytes written are the flag groups of
the greedy token sequence up to the cursor (`StepsTo`), which is valid and expands to the input; the
round trip then comes from the decoder simulation of C11.
-/
import MilaModel.Model.Lz
import MilaModel.Spec.LzStream
import MilaModel.Lemmas.LzFormat

namespace Mila.Props.C08
open Mila Mila.Lz Mila.Spec.Lz

/-- For every input shorter than 16 MiB, LZ10 compression succeeds and returns a well-formed
stream — type byte 0x10, 24-bit length = input length, flag groups of eight tokens, every
back-reference of length 3–18 and displacement 1–4096 inside the data already produced, nothing
left over — whose expansion by the independent reference expander is exactly the input. -/
theorem lz10_correct (x : BA) (_hx : x.size < 2 ^ 24) :
    ∃ out toks, compress10 x = .ok out ∧ Encodes false x.size toks out.toList ∧
      Valid false toks ∧ expand toks = x := by
  obtain ⟨out, toks, body, h1, h2, h3, v, e⟩ := post_correct (compress10_post x) lenOk10
  exact ⟨out, toks, h1, ⟨body, h2, h3⟩, v, e⟩

/-- The output is a conforming stream in the sense of C11 … -/
theorem lz10_conforms (x : BA) (hx : x.size < 2 ^ 24) :
    ∃ out toks, compress10 x = .ok out ∧ Conforms false toks out.toList ∧ expand toks = x := by
  obtain ⟨out, toks, h1, h2, h3, h4⟩ := lz10_correct x hx
  refine ⟨out, toks, h1, ⟨h3, by rw [h4]; exact h2, by rw [h4]; simpa using hx⟩, h4⟩

/-- … so the library's own decompressor (LZ10 and LZ13 entry points) gives back the input. -/
theorem lz10_roundtrip (x : BA) (hx : x.size < 2 ^ 24) :
    ∃ out, compress10 x = .ok out ∧ decompress10 out.toList = .ok x ∧
      Format.decompress .lz10 out.toList = .ok x := by
  obtain ⟨out, h1, h2⟩ := format_roundtrip .lz10 x hx
  exact ⟨out, h1, h2, h2⟩

/-- Compression never fails or panics, whatever the input length (the header then carries the
length modulo 2^24). -/
theorem lz10_total (x : BA) : ∃ out, compress10 x = .ok out :=
  (compress10_post x).ok

/-- Consequently LZ10 compression is injective below 16 MiB: two different inputs never share a
compressed image (nothing is lost that decompression would need). -/
theorem lz10_injective (x y : BA) (hx : x.size < 2 ^ 24) (hy : y.size < 2 ^ 24)
    (h : compress10 x = compress10 y) : x = y := by
  obtain ⟨ox, hx1, hx2, _⟩ := lz10_roundtrip x hx
  obtain ⟨oy, hy1, hy2, _⟩ := lz10_roundtrip y hy
  exact injective_of_roundtrip ⟨ox, hx1, hx2⟩ ⟨oy, hy1, hy2⟩ h

/-- The first four bytes of every LZ10 image below 16 MiB are the type byte and the input length,
little endian — the part of the contract a foreign decoder reads first, stated without the
specification's vocabulary. -/
theorem lz10_header (x : BA) (hx : x.size < 2 ^ 24) :
    ∃ out rest, compress10 x = .ok out ∧
      out.toList = 0x10 :: UInt8.ofNat (x.size % 256) :: UInt8.ofNat (x.size / 256 % 256) ::
        UInt8.ofNat (x.size / 65536 % 256) :: rest := by
  obtain ⟨out, toks, h1, ⟨body, h2, _⟩, _, _⟩ := lz10_correct x hx
  refine ⟨out, body, h1, ?_⟩
  rw [h2]
  simp [header, leBytes, Nat.div_div_eq_div_mul]

/-- Interoperability of the two entry points: the LZ13 decompressor (struct and
`CompressionFormat::LZ13`), which accepts bare LZ10/LZ11 streams, also gives back the input on
every LZ10 image — a file written with one format setting and read with the other is not lost. -/
theorem lz10_read_by_lz13 (x : BA) (hx : x.size < 2 ^ 24) :
    ∃ out, compress10 x = .ok out ∧ decompress13 out.toList = .ok x ∧
      Format.decompress .lz13 out.toList = .ok x := by
  obtain ⟨out, toks, h1, h2, h3⟩ := lz10_conforms x hx
  have h := decompress13_conforms h2
  rw [h3] at h
  exact ⟨out, h1, h, h⟩

/-! Non-vacuity: the hypotheses are satisfiable by concrete inputs (the empty one included). -/
example : ∃ out, compress10 #[1, 1, 1, 1, 1, 1, 2] = .ok out ∧
    decompress10 out.toList = .ok #[1, 1, 1, 1, 1, 1, 2] :=
  let ⟨out, h1, h2, _⟩ := lz10_roundtrip #[1, 1, 1, 1, 1, 1, 2] (by decide)
  ⟨out, h1, h2⟩
example : ∃ out, compress10 #[] = .ok out ∧ decompress10 out.toList = .ok #[] :=
  let ⟨out, h1, h2, _⟩ := lz10_roundtrip #[] (by decide)
  ⟨out, h1, h2⟩

end Mila.Props.C08
