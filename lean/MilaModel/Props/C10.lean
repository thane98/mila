/-
C10 — Compressed size is bounded and repetition is actually exploited.

Model: `compress10`, `compress13`, `occurrence`.  The output is the header and the flag groups of the
greedy tokens; each token is charged to the input bytes it covers (`stepsTo_charge_le`, for both
formats), and on periodic data the match search is complete, so every reference past the first period
has the full look-ahead (`stepsTo_periodic`).  `ceil(a/b)` is written `(a + b - 1) / b`.
-/
import MilaModel.Model.Lz
import MilaModel.Spec.LzStream
import MilaModel.Lemmas.LzFormat

namespace Mila.Props.C10
open Mila Mila.Lz Mila.Spec.Lz

/-- LZ10 output never exceeds the 4-byte header plus the input length plus one flag byte per
eight input bytes. -/
theorem expansion_bound10 (x : BA) :
    ∃ out, compress10 x = .ok out ∧ out.size ≤ 4 + x.size + (x.size + 7) / 8 :=
  post_size_le (compress10_post x)

/-- LZ13 output never exceeds the 8-byte header (wrapper + LZ11 header; 12 bytes for the empty
input, which needs the extended length word) plus the input length plus one flag byte per eight
input bytes. -/
theorem expansion_bound13 (x : BA) :
    ∃ out, (compress13 x).1 = .ok out ∧
      out.size ≤ (if x.size = 0 then 12 else 8) + x.size + (x.size + 7) / 8 :=
  compress13_size_le x

/-- An input of `n` bytes that repeats with a period `p ≤ 4096` compresses with LZ10 to at most the
header, `p + 2` literals, `ceil((n-p)/18) + 1` back-references of 2 bytes and one flag byte per
eight tokens: the whole 4096-byte window and the full 18-byte match length are used. -/
theorem periodic_bound10 (x : BA) (p : Nat) (hp1 : 1 ≤ p) (hp : p ≤ 4096) (hper : Periodic x p) :
    ∃ out, compress10 x = .ok out ∧
      out.size ≤ 4 + (p + 2) + 2 * ((x.size - p + 17) / 18 + 1) +
        ((p + 2) + ((x.size - p + 17) / 18 + 1) + 7) / 8 :=
  post_periodic_size (compress10_post x) (by omega) 2 (by omega) (fun _ _ => tokBytes_length_le false _)
    p hp1 hp hper

/-- The same for LZ13: back-references of at most 4 bytes covering up to 4096 bytes each. -/
theorem periodic_bound13 (x : BA) (p : Nat) (hp1 : 1 ≤ p) (hp : p ≤ 4096) (hper : Periodic x p) :
    ∃ out, (compress13 x).1 = .ok out ∧
      out.size ≤ 8 + (p + 2) + 4 * ((x.size - p + 4095) / 4096 + 1) +
        ((p + 2) + ((x.size - p + 4095) / 4096 + 1) + 7) / 8 := by
  by_cases h0 : x.size = 0
  · -- the empty input has the longer header and no tokens
    obtain ⟨out, h1, h2⟩ := expansion_bound13 x
    exact ⟨out, h1, by rw [if_pos h0] at h2; omega⟩
  · obtain ⟨_, _, _, hdr, hh, _, hpost⟩ := compress13_post x
    obtain ⟨out, h1, h2⟩ := post_periodic_size hpost (by omega) 4 (by omega)
      (fun _ _ => tokBytes_length_le true _) p hp1 hp hper
    rw [hh, if_neg h0] at h2
    exact ⟨out, h1, h2⟩

/-- **The bounds hold through every public entry point**: the dispatching wrapper
`CompressionFormat::compress` (used by `LayeredFilesystem::write*`) returns exactly what the format
struct returns, so the expansion bound holds for what is written to disk (a wrapper that pads or
re-frames the stream breaks this statement). -/
theorem expansion_bound_wrapper (x : BA) :
    (∃ out, Format.compress .lz10 x = .ok out ∧ out.size ≤ 4 + x.size + (x.size + 7) / 8) ∧
    (∃ out, Format.compress .lz13 x = .ok out ∧
      out.size ≤ (if x.size = 0 then 12 else 8) + x.size + (x.size + 7) / 8) :=
  ⟨expansion_bound10 x, expansion_bound13 x⟩

/-- The effectiveness bounds through the wrapper. -/
theorem periodic_bound_wrapper (x : BA) (p : Nat) (hp1 : 1 ≤ p) (hp : p ≤ 4096) (hper : Periodic x p) :
    (∃ out, Format.compress .lz10 x = .ok out ∧
      out.size ≤ 4 + (p + 2) + 2 * ((x.size - p + 17) / 18 + 1) +
        ((p + 2) + ((x.size - p + 17) / 18 + 1) + 7) / 8) ∧
    (∃ out, Format.compress .lz13 x = .ok out ∧
      out.size ≤ 8 + (p + 2) + 4 * ((x.size - p + 4095) / 4096 + 1) +
        ((p + 2) + ((x.size - p + 4095) / 4096 + 1) + 7) / 8) :=
  ⟨periodic_bound10 x p hp1 hp hper, periodic_bound13 x p hp1 hp hper⟩

/-! Non-vacuity: a concrete periodic input. -/
example : Periodic #[1, 2, 3, 1, 2, 3, 1, 2, 3, 1, 2] 3 := by
  intro i hi
  have hi8 : i < 8 := by simp at hi; omega
  clear hi
  revert i
  decide

end Mila.Props.C10
