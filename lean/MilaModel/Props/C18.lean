/-
C18 — Asset-binary round trip preserves every field of every spec; short record form; record
length; idempotent re-serialisation.

Model: `Mila.Asset` (`MilaModel/Model/AssetBinary.lean`, a table-driven transcription of
`src/asset_binary.rs`).  Specification: `Mila.Spec.Asset` (domain `WF`, `normalizeVals`,
`extended`, `recordLen`, `announcedLen`, `dataSize`).
Layering as for C17: the reader is correct on every archive that shows the declarative layout
(`Asset.Layout`), `serialize` builds such an archive, the layout is carried along `SameContent`,
the conclusion of property C01, which enters as the named hypothesis `BinRoundTrip`.
-/
import MilaModel.Lemmas.AssetBuild
import MilaModel.Lemmas.ComposeBin
import MilaModel.Spec.Asset
import MilaModel.Lemmas.SjisSub

namespace Mila.Props.C18
open Mila Mila.Asset Mila.Layered BinArchive

/-- The property's quantifier: 32-bit header flags; each spec has its 33 optional strings and
18 typed fields of four bytes; the data section fits the address space (`usize` = 64 bit). -/
structure WF (v : AssetBinary) : Prop where
  wf : BinaryWF v
  small : Spec.Asset.dataSize (v.specs.map (fun s => (s.strs, s.vals))) < 2 ^ 64

/-- **Short form**: a record gets 4 flag bytes exactly when no extended field (string 32, 33 or a
typed field) is present, otherwise 8 flag bytes; bit 0 of the first byte marks the long form. -/
theorem asset_short_iff (s : AssetSpec) (h : SpecWF s) :
    ((computeFlags s).1.length = Spec.Asset.flagBytes s.strs s.vals)
      ∧ ((computeFlags s).1.length = 4 ↔ Spec.Asset.extended s.strs s.vals = false)
      ∧ (Spec.Asset.marked (computeFlags s).1 = Spec.Asset.extended s.strs s.vals) := by
  rw [computeFlags_eq]
  simp only
  rw [flagBytes_eq s h, marked_final, extended_eq s h]
  by_cases hl : isLong s
  · simp only [hl, finalFlags_length, if_true, decide_true]
    exact ⟨trivial, by simp, trivial⟩
  · simp only [hl, finalFlags_length, if_false, decide_false]
    exact ⟨trivial, by simp, trivial⟩

/-- **Record length**: appending a spec (in the course of `serialize`) grows the data by exactly
the bytes the record's own flag bytes announce — flag bytes, name cell, one word per announced
field — which is the specification's `recordLen` (so a present field costs one word, an absent
one nothing). -/
theorem asset_len (s : AssetSpec) (h : SpecWF s) (a : BinArchive) (cs : List Cell)
    (hinv : WInv a a.size cs) :
    ∃ a', append s a = .ok a'
      ∧ a'.size = a.size + Spec.Asset.announcedLen (computeFlags s).1
      ∧ Spec.Asset.announcedLen (computeFlags s).1 = Spec.Asset.recordLen s.strs s.vals := by
  obtain ⟨a', ha, _, hs, _⟩ := append_layout (D := fun _ => True) s h (fun _ _ => trivial)
    (fun _ _ => trivial) a cs hinv
  have hfl : (computeFlags s).1 = finalFlags s := by rw [computeFlags_eq]
  refine ⟨a', ha, ?_, ?_⟩
  · rw [hs, hfl, announced_eq, recordCells_size]
  · rw [hfl, announced_eq, size_eq_recordLen s h]

private theorem small_cells {v : AssetBinary} (h : WF v) : 4 * (fileCells v).length < 2 ^ 64 := by
  rw [fileCells_size v h.wf.2]; exact h.small

/-- The layered format at a well-formed binary: `from_archive` reports the normalised value. -/
private theorem format {v : AssetBinary} (h : WF v) {D : Str → Prop} (hD : Compose.AssetStrsIn D v) :
    Format D (build v) (Asset.serialize · v) fromArchive (normalizeBinary v) (Layout v) where
  built := build_layout v h.wf.2 (small_cells h) hD
  ser_eq := fun c a ha => by unfold Asset.serialize; rw [ha]
  read_eq := fromArchive_layout v h.wf
  transfer := fun _ _ => Layout.transfer
  little := fun _ => Layout.little

/-- **Size of the data section**: header flags, the records, the terminator. -/
theorem asset_size (v : AssetBinary) (h : WF v) {a : BinArchive} (ha : build v = .ok a) :
    a.size = Spec.Asset.dataSize (v.specs.map (fun s => (s.strs, s.vals))) := by
  obtain ⟨hl, _⟩ := (format h (.trivial v)).of_build ha
  rw [hl.size, fileCells_size v h.wf.2]

theorem asset_build_ok (v : AssetBinary) (h : WF v) : ∃ a, build v = .ok a :=
  (format h (.trivial v)).build_ok

/-- **Round trip on the un-serialised archive**: header flags and every spec come back, each
string field exactly, each typed field with its presence flag and — when present — its four bytes
(bit for bit); a typed field that is not in use comes back as the default (`normalize`). -/
theorem asset_roundtrip (v : AssetBinary) (h : WF v) :
    ∃ a, build v = .ok a ∧ fromArchive a = .ok (normalizeBinary v) :=
  (format h (.trivial v)).roundtrip

/-- Consequently two well-formed asset files that build the same archive agree up to the reset of
their unused typed fields (`normalizeBinary`): nothing that `from_archive` reports is lost. -/
theorem asset_build_injective (v w : AssetBinary) (hv : WF v) (hw : WF w)
    (h : build v = build w) : normalizeBinary v = normalizeBinary w :=
  (format hv (.trivial v)).injective (format hw (.trivial w)) h

/-- `normalize` is the identity on values whose unused typed fields hold the default. -/
theorem normalize_id (v : AssetBinary)
    (h : ∀ s ∈ v.specs, ∀ t ∈ s.vals, t.1 = false → t.2 = zero4) : normalizeBinary v = v := by
  unfold normalizeBinary
  have hid : ∀ s ∈ v.specs, normalize s = s := by
    intro s hs
    unfold normalize Spec.Asset.normalizeVals
    have : ∀ t ∈ s.vals, (if t.1 = true then t else (false, [0, 0, 0, 0])) = t := by
      intro t ht
      by_cases hu : t.1 = true
      · rw [if_pos hu]
      · have hf := Bool.eq_false_iff.2 hu
        rw [if_neg hu]
        exact Prod.ext hf.symm (h s hs t ht hf).symm
    rw [List.map_congr_left this, List.map_id']
  rw [List.map_congr_left hid, List.map_id']

/-- **Layering**: `from_archive` depends only on the archive's content. -/
theorem asset_layering (v : AssetBinary) (h : WF v) {a b : BinArchive} (ha : build v = .ok a)
    (hab : SameContent a b) : fromArchive b = fromArchive a :=
  (format h (.trivial v)).layering ha hab

/-- **File-level round trip**, given the bin-archive round trip (property C01) for the archive
that `serialize` builds. -/
theorem asset_file_roundtrip (c : Codec) (v : AssetBinary) (h : WF v)
    (hC01 : ∀ a, build v = .ok a → BinRoundTrip c a) :
    ∀ bytes, Asset.serialize c v = .ok bytes →
      ∃ b, BinArchive.parse c .little bytes = .ok b ∧ fromArchive b = .ok (normalizeBinary v) :=
  (format h (.trivial v)).file_roundtrip c hC01

/-- Unused typed fields are never written: the normalised value serialises to the same archive. -/
theorem build_normalize (v : AssetBinary) : build (normalizeBinary v) = build v := by
  unfold build normalizeBinary
  simp only [appendAll_normalize]

/-- **Idempotence**: re-serialising the value re-read from the serialised file gives the same
bytes (given C01 for the built archive). -/
theorem asset_idempotent (c : Codec) (v : AssetBinary) (h : WF v)
    (hC01 : ∀ a, build v = .ok a → BinRoundTrip c a) :
    ∀ bytes, Asset.serialize c v = .ok bytes →
      ∃ b v', BinArchive.parse c .little bytes = .ok b ∧ fromArchive b = .ok v'
        ∧ Asset.serialize c v' = .ok bytes := by
  intro bytes hs
  obtain ⟨b, hb, hf⟩ := asset_file_roundtrip c v h hC01 bytes hs
  refine ⟨b, normalizeBinary v, hb, hf, ?_⟩
  unfold Asset.serialize at hs ⊢
  rw [build_normalize]; exact hs

/-- A non-trivial binary: one long record (string 2, string 33, a colour, a NaN-payload f32 and a
u32 present; an unused typed field carrying a stale value), one all-absent record. -/
def sample : AssetBinary :=
  ⟨0xFFFFFFFF,
   [⟨some (bs ['n']),
     [none, some (bs ['x'])] ++ List.replicate 30 none ++ [some []],
     [(true, [1, 2, 3, 4]), (false, [9, 9, 9, 9]), (false, zero4), (true, [1, 0, 0xC0, 0x7F])]
       ++ List.replicate 13 (false, zero4) ++ [(true, [0xEF, 0xBE, 0xAD, 0xDE])]⟩,
    ⟨none, List.replicate 33 none, List.replicate 18 (false, zero4)⟩]⟩

instance (s : AssetSpec) : Decidable (SpecWF s) := by unfold SpecWF; exact inferInstance
instance (v : AssetBinary) : Decidable (BinaryWF v) := by unfold BinaryWF; exact inferInstance

example : WF sample := ⟨by decide +kernel, by decide +kernel⟩

example : normalizeBinary sample ≠ sample := by decide +kernel

example : Spec.Asset.dataSize (sample.specs.map (fun s => (s.strs, s.vals))) = 4 + (8 + 4 + 4 * 5) + (4 + 4) + 4 := by
  decide +kernel

/-! ### composition with C01: the hypothesis `hC01` discharged

`BinRoundTrip c a` is a theorem for every archive `serialize` builds: the built archive is in C01's
quantifier (one string per 4-aligned cell inside the data; no pointers, pending c-strings or
labels: `Compose.Tidy` and `Plain` from `build_layout`), so `C01.parse_serialize` applies.  What
remains are the property's own domain hypotheses: the codec is faithful on `D`, every name and
optional string of every spec is in `D` (`Compose.AssetStrsIn`), the shapes (`WF`), and the 32-bit
format's size limit on the image (`Ser.imageSize`). -/

/-- **C01 instantiated**: the bin-archive round trip holds of every archive `serialize` builds. -/
theorem asset_bin_roundtrip (c : Codec) (D : Str → Prop) (hf : c.Faithful D) (v : AssetBinary)
    (h : WF v) (hD : Compose.AssetStrsIn D v) :
    ∀ a, build v = .ok a → Ser.imageSize c a < 2 ^ 32 → BinRoundTrip c a :=
  (format h hD).bin_roundtrip c hf

/-- `serialize` succeeds on the whole domain, with an image of the prescribed size. -/
theorem asset_serialize_ok (c : Codec) (D : Str → Prop) (hf : c.Faithful D) (v : AssetBinary)
    (h : WF v) (hD : Compose.AssetStrsIn D v)
    (small : ∀ a, build v = .ok a → Ser.imageSize c a < 2 ^ 32) :
    ∃ a bytes, build v = .ok a ∧ Asset.serialize c v = .ok bytes ∧
      bytes.length = Ser.imageSize c a :=
  (format h hD).serialize_ok c hf small

/-- **File-level round trip, unconditional**: `serialize` succeeds and
`from_archive(from_bytes(serialize(v)))` is `v` with its unused typed fields at their default. -/
theorem asset_file_roundtrip_unconditional (c : Codec) (D : Str → Prop) (hf : c.Faithful D)
    (v : AssetBinary) (h : WF v) (hD : Compose.AssetStrsIn D v)
    (small : ∀ a, build v = .ok a → Ser.imageSize c a < 2 ^ 32) :
    ∃ bytes b, Asset.serialize c v = .ok bytes ∧ BinArchive.parse c .little bytes = .ok b ∧
      fromArchive b = .ok (normalizeBinary v) :=
  (format h hD).file_roundtrip_unconditional c hf small

/-- **Idempotence, unconditional**: re-serialising the value re-read from the serialised file gives
the same bytes. -/
theorem asset_idempotent_unconditional (c : Codec) (D : Str → Prop) (hf : c.Faithful D)
    (v : AssetBinary) (h : WF v) (hD : Compose.AssetStrsIn D v)
    (small : ∀ a, build v = .ok a → Ser.imageSize c a < 2 ^ 32) :
    ∃ bytes b v', Asset.serialize c v = .ok bytes ∧ BinArchive.parse c .little bytes = .ok b ∧
      fromArchive b = .ok v' ∧ Asset.serialize c v' = .ok bytes := by
  obtain ⟨_, bytes, _, hs, _⟩ := asset_serialize_ok c D hf v h hD small
  obtain ⟨b, v', hb, hfa, hs'⟩ := asset_idempotent c v h
    (fun a ha => asset_bin_roundtrip c D hf v h hD a ha (small a ha)) bytes hs
  exact ⟨bytes, b, v', hs, hb, hfa, hs'⟩

/-- The file-level round trip with no assumption about the text encoding left (`Mila.sjisSub_faithful`). -/
theorem asset_file_roundtrip_sjisSub (v : AssetBinary) (h : WF v) (hD : Compose.AssetStrsIn Sjis.SubDomain v)
    (small : ∀ a, build v = .ok a → Ser.imageSize sjisSub a < 2 ^ 32) :
    ∃ bytes b, Asset.serialize sjisSub v = .ok bytes ∧ BinArchive.parse sjisSub .little bytes = .ok b ∧
      fromArchive b = .ok (normalizeBinary v) :=
  asset_file_roundtrip_unconditional sjisSub Sjis.SubDomain Mila.sjisSub_faithful v h hD small

/-- Non-vacuity of the composed theorems: the identity codec is faithful on NUL-free strings and
every string of `sample` is NUL-free. -/
example : (⟨fun s => some s, id⟩ : Codec).Faithful (fun s => (0 : UInt8) ∉ s) ∧
    Compose.AssetStrsIn (fun s => (0 : UInt8) ∉ s) sample := by
  refine ⟨fun s hs => ⟨s, rfl, hs, rfl⟩, ?_⟩
  intro spec hspec
  simp only [sample, List.mem_cons, List.mem_nil_iff, or_false] at hspec
  rcases hspec with rfl | rfl
  · refine ⟨fun s hs => (by cases hs; decide), fun s hs => ?_⟩
    simp only [List.mem_cons, List.mem_append, List.mem_replicate, List.mem_nil_iff, or_false,
      Option.some.injEq, reduceCtorEq, and_false, false_or, or_false] at hs
    rcases hs with rfl | rfl <;> decide
  · refine ⟨fun s hs => (by cases hs), fun s hs => ?_⟩
    simp only [List.mem_replicate] at hs
    cases hs.2

/-- All hypotheses of the composed theorems together, the size limit included, hold of a concrete
binary (one short record with a name) over the identity codec; the image size is evaluated in the
kernel. -/
example :
    let c : Codec := ⟨fun s => some s, id⟩
    let D : Str → Prop := fun s => (0 : UInt8) ∉ s
    let v : AssetBinary := ⟨7, [⟨some (bs ['n']), List.replicate 33 none, List.replicate 18 (false, zero4)⟩]⟩
    c.Faithful D ∧ WF v ∧ Compose.AssetStrsIn D v ∧
      ∀ a, build v = .ok a → Ser.imageSize c a < 2 ^ 32 := by
  refine ⟨fun s hs => ⟨s, rfl, hs, rfl⟩, ⟨by decide +kernel, by decide +kernel⟩, ?_, ?_⟩
  · intro spec hspec
    simp only [List.mem_singleton] at hspec
    subst hspec
    refine ⟨fun s hs => (by cases hs; decide), fun s hs => ?_⟩
    simp only [List.mem_replicate] at hs; cases hs.2
  · intro a ha
    have h : (match build ⟨7, [⟨some (bs ['n']), List.replicate 33 none, List.replicate 18 (false, zero4)⟩]⟩ with
        | .ok a => decide (Ser.imageSize ⟨fun s => some s, id⟩ a < 2 ^ 32)
        | _ => false) = true := by decide +kernel
    rw [ha] at h
    simpa using h

end Mila.Props.C18
