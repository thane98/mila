/-
C05 — archive-family parsers are total on arbitrary bytes.

The ten entry points are the model definitions the `parsers` correspondence stream runs
(`Driver/Parsers.lean`):

  binLE / binBE                `BinArchive.parse c e bytes`
  textSjis{LE,BE}, textUni{LE,BE}   `TextArchive.fromBytes c bytes f e`
  arc                          `Arc.fromBytes c p bytes`            (both arithmetic profiles `p`)
  pack                         `Fe9Arc.parse c bytes`
  aset                         `(BinArchive.parse c .little bytes).bind Aset.fromArchive`
  asset                        `(BinArchive.parse c .little bytes).bind Asset.fromArchive`

Every theorem quantifies over **all** byte strings (no size bound) and over an **arbitrary** codec
`c` (no faithfulness assumption: the bytes are untrusted, so is whatever the decoder makes of them).

Arithmetic profiles: the only profile-dependent operation of the family is the `usize` addition
`read_u32()? as usize + header_padding` (arc.rs:34), modelled with the profile-aware `add64`;
`arc_total` holds in both profiles and `arc_profiles_agree` shows they coincide.  The bin header sum
(bin_archive.rs:260) and the pack range `start + size` (fe9_arc.rs:45-46) are sums of `u32` values
formed in `u64` / `usize`: they are natural-number sums in the model, the theorems
`bin_header_sum_no_overflow` / `pack_range_no_overflow` show they stay far below `2^64` (so the
machine sums equal the model's in either profile), and `bin_rejects_overdeclared`,
`pack_rejects_overdeclared_file` are about exactly those sums.

Termination: `TextArchive.fromLoop`, `Aset.readSets`, `Asset.readSpecs` — the three `while` loops —
are well-founded recursions on the number of bytes that remain, accepted by Lean with the progress
lemmas `readMessage_progress`, `readSet_pos`, `fromStream_pos`; every other loop is a structural
recursion over a count or a list.  All model functions are total Lean functions (no `partial`, no
fuel), so "fails to terminate" is excluded by the definitions themselves; what is left to prove is
that the outcome is never `panic`.
-/
import MilaModel.Lemmas.Arc
import MilaModel.Lemmas.Pack
import MilaModel.Lemmas.ParsersTotal
import MilaModel.Lemmas.ParsersSer
import MilaModel.Lemmas.ParsersReject
import MilaModel.Lemmas.ParsersFuel

namespace Mila.Props.C05
open Mila Mila.BinArchive Mila.ParsersLemmas
open Mila.Spec.Pack (word)

/-! ## 1. Totality: no entry point ever produces the `panic` outcome -/

/-- `BinArchive::from_bytes`, either endianness: `Ok` or `Err` for every byte string. -/
theorem bin_total (c : Codec) (e : Endian) (bytes : Bytes) : BinArchive.parse c e bytes ≠ .panic :=
  parse_ne_panic c e bytes

/-- `TextArchive::from_bytes`, both formats × both endiannesses.  The message loop terminates by
definition (well-founded on the remaining bytes). -/
theorem text_total (c : Codec) (f : TextFormat) (e : Endian) (bytes : Bytes) :
    TextArchive.fromBytes c bytes f e ≠ .panic := by
  unfold TextArchive.fromBytes
  split
  · exact text_fromArchive_total c _ f e
  · nofun
  · exact absurd ‹_› (bin_total c e bytes)

/-- `arc::from_bytes` in **both** arithmetic profiles (overflow checks on / off). -/
theorem arc_total (c : Codec) (p : Profile) (bytes : Bytes) : Arc.fromBytes c p bytes ≠ .panic :=
  ArcLemmas.fromBytes_total c p bytes

/-- The two profiles of `arc::from_bytes` return the same result on every byte string (the offset
addition is done in `usize`, arc.rs:34, and cannot wrap). -/
theorem arc_profiles_agree (c : Codec) (bytes : Bytes) :
    Arc.fromBytes c .checked bytes = Arc.fromBytes c .wrapping bytes :=
  ArcLemmas.fromBytes_profile c _ _ bytes

/-- `fe9_arc::parse`: wrong magic, truncation, over-declared counts / sizes / addresses all end in
`Err`. -/
theorem pack_total (c : Codec) (bytes : Bytes) : Fe9Arc.parse c bytes ≠ .panic :=
  PackLemmas.parse_total c bytes

/-- `BinArchive::from_bytes` then `ASetFile::from_archive`.  The set loop terminates by definition
(every iteration consumes at least the main flag word). -/
theorem aset_total (c : Codec) (bytes : Bytes) :
    (BinArchive.parse c .little bytes).bind Aset.fromArchive ≠ .panic :=
  Res.bind_ne_panic _ _ (bin_total c .little bytes) aset_fromArchive_total

/-- `BinArchive::from_bytes` then `AssetBinary::from_archive`.  The record loop terminates by
definition (every record read starts inside the data and is not empty). -/
theorem asset_total (c : Codec) (bytes : Bytes) :
    (BinArchive.parse c .little bytes).bind Asset.fromArchive ≠ .panic :=
  Res.bind_ne_panic _ _ (bin_total c .little bytes) asset_fromArchive_total

/-- The readers layered on a bin archive are total on **every** archive value, not only on those
`from_bytes` can produce. -/
theorem layered_readers_total (c : Codec) (p : Profile) (a : BinArchive) :
    (∀ f e, TextArchive.fromArchive c a f e ≠ .panic) ∧ Arc.fromArchive p a ≠ .panic ∧
      Aset.fromArchive a ≠ .panic ∧ Asset.fromArchive a ≠ .panic :=
  ⟨fun f e => text_fromArchive_total c a f e, ArcLemmas.fromArchive_total p a,
    aset_fromArchive_total a, asset_fromArchive_total a⟩

/-! ## 2. Explicitly sized requests are bounded by the input -/

/-- **No entry point requests a buffer larger than its input** on the strength of a header or table
field: every logged request (`resize(data_size)` of `BinArchive::from_bytes`, the only one the
family makes) is at most `bytes.length` — for every entry name of the stream, every byte string. -/
theorem requests_bounded (entry : String) (bytes : Bytes) :
    ∀ r ∈ Parsers.requests entry bytes, r ≤ bytes.length := by
  unfold Parsers.requests
  split <;> first | exact binRequests_le _ _ | nofun

/-- The request log of the bin parser in closed form: nothing when the header check fails,
otherwise the declared data size. -/
theorem bin_requests_eq (e : Endian) (bytes : Bytes) :
    Parsers.binRequests e bytes =
      if bytes.length < 0x20 ∨ hdrDeclared e bytes > bytes.length then [] else [hdrDataSize e bytes] :=
  binRequests_eq e bytes

/-- No request is logged only when `parse` stops at the size check, before sizing anything. -/
theorem bin_no_request_is_too_small (c : Codec) (e : Endian) (bytes : Bytes)
    (h : Parsers.binRequests e bytes = []) : BinArchive.parse c e bytes = .err .TooSmall := by
  rw [binRequests_eq] at h
  split at h
  · exact ‹_ ∨ _›.elim (parse_short c e bytes) (parse_too_small c e bytes)
  · cases h

/-- **The request is the `resize(data_size)` of the code**: when `parse` gets past the header check
the single logged request `n` is the header's data size, the data region `parse` goes on with has
exactly that length, and it lies inside the input after the 0x20-byte header. -/
theorem bin_request_is_resize (e : Endian) (bytes : Bytes) (n : Nat)
    (h : Parsers.binRequests e bytes = [n]) :
    n = hdrDataSize e bytes ∧ (slice bytes 0x20 n).length = n ∧ n + 0x20 ≤ bytes.length := by
  rw [binRequests_eq] at h
  split at h
  · cases h
  · cases h
    have := hdrDataSize_le e bytes
    exact ⟨rfl, length_slice _ _ _ (by omega), by omega⟩

/-- For an accepted buffer the request is the length of the returned archive's data. -/
theorem bin_request_of_accepted (c : Codec) (e : Endian) (bytes : Bytes) (a : BinArchive)
    (h : BinArchive.parse c e bytes = .ok a) : Parsers.binRequests e bytes = [a.data.length] := by
  obtain ⟨h1, h2, _, h4⟩ := parse_ok_header h
  rw [binRequests_eq, if_neg (by omega), h4]

/-! ## 3. Over-declared headers and entries are rejected -/

/-- **Bin header**: if `data_size + 4·pointer_count + 8·label_count + 0x20` exceeds the buffer the
result is `ArchiveTooSmall` (the sum is exact: formed in `u64`, no 32-bit wrap). -/
theorem bin_rejects_overdeclared (c : Codec) (e : Endian) (bytes : Bytes)
    (h : hdrDataSize e bytes + 4 * hdrPointerCount e bytes + 8 * hdrLabelCount e bytes + 0x20
      > bytes.length) : BinArchive.parse c e bytes = .err .TooSmall :=
  parse_too_small c e bytes h

/-- … the data size alone exceeding what is left after the header, -/
theorem bin_rejects_data_size (c : Codec) (e : Endian) (bytes : Bytes)
    (h : hdrDataSize e bytes + 0x20 > bytes.length) : BinArchive.parse c e bytes = .err .TooSmall :=
  parse_too_small c e bytes (Nat.lt_of_lt_of_le h (hdrDataSize_le e bytes))

/-- … the pointer table alone, -/
theorem bin_rejects_pointer_count (c : Codec) (e : Endian) (bytes : Bytes)
    (h : 4 * hdrPointerCount e bytes + 0x20 > bytes.length) :
    BinArchive.parse c e bytes = .err .TooSmall :=
  parse_too_small c e bytes (by unfold hdrDeclared; omega)

/-- … the label table alone. -/
theorem bin_rejects_label_count (c : Codec) (e : Endian) (bytes : Bytes)
    (h : 8 * hdrLabelCount e bytes + 0x20 > bytes.length) :
    BinArchive.parse c e bytes = .err .TooSmall :=
  parse_too_small c e bytes (by unfold hdrDeclared; omega)

/-- A buffer shorter than the header is `ArchiveTooSmall`. -/
theorem bin_rejects_short (c : Codec) (e : Endian) (bytes : Bytes) (h : bytes.length < 0x20) :
    BinArchive.parse c e bytes = .err .TooSmall :=
  parse_short c e bytes h

/-- Conversely, whatever is accepted declared no more than the buffer holds, and the archive's
data region has exactly the declared size. -/
theorem bin_accepted_fits (c : Codec) (e : Endian) (bytes : Bytes) (a : BinArchive)
    (h : BinArchive.parse c e bytes = .ok a) :
    hdrDataSize e bytes + 4 * hdrPointerCount e bytes + 8 * hdrLabelCount e bytes + 0x20
        ≤ bytes.length ∧ a.data.length = hdrDataSize e bytes :=
  ⟨(parse_ok_header h).2.1, (parse_ok_header h).2.2.2⟩

/-- **No overflow in the size check**: the three header words are 32-bit values, so the sum the
code forms in `u64` is below `2^36` — it is the natural-number sum of the model in either
arithmetic profile. -/
theorem bin_header_sum_no_overflow (e : Endian) (bytes : Bytes) :
    hdrDataSize e bytes < 2 ^ 32 ∧ hdrPointerCount e bytes < 2 ^ 32 ∧ hdrLabelCount e bytes < 2 ^ 32 ∧
      hdrDataSize e bytes + 4 * hdrPointerCount e bytes + 8 * hdrLabelCount e bytes + 0x20 < 2 ^ 64 :=
  ⟨dec_slice4_lt e bytes 4, dec_slice4_lt e bytes 8, dec_slice4_lt e bytes 12,
    Nat.lt_trans (hdrDeclared_lt e bytes) (by decide)⟩

/-- **Propagation**: the layered entry points return the bin parser's error unchanged — whenever
`from_bytes` rejects the buffer, so do text archive (same endianness), arc (both profiles), aset and
asset. -/
theorem layered_propagate_bin_error (c : Codec) (bytes : Bytes) (x : Err) :
    (∀ f e, BinArchive.parse c e bytes = .err x → TextArchive.fromBytes c bytes f e = .err x) ∧
    (BinArchive.parse c .little bytes = .err x →
      (∀ p, Arc.fromBytes c p bytes = .err x) ∧
      (BinArchive.parse c .little bytes).bind Aset.fromArchive = .err x ∧
      (BinArchive.parse c .little bytes).bind Asset.fromArchive = .err x) := by
  refine ⟨fun f e h => ?_, fun h => ⟨fun p => ?_, by rw [h]; rfl, by rw [h]; rfl⟩⟩
  · unfold TextArchive.fromBytes; rw [h]
  · unfold Arc.fromBytes; rw [h]

/-- Hence an over-declared bin header is rejected by **every** entry point built on the bin
parser. -/
theorem layered_reject_overdeclared (c : Codec) (bytes : Bytes) :
    (∀ f e, hdrDeclared e bytes > bytes.length →
      TextArchive.fromBytes c bytes f e = .err .TooSmall) ∧
    (hdrDeclared .little bytes > bytes.length →
      (∀ p, Arc.fromBytes c p bytes = .err .TooSmall) ∧
      (BinArchive.parse c .little bytes).bind Aset.fromArchive = .err .TooSmall ∧
      (BinArchive.parse c .little bytes).bind Asset.fromArchive = .err .TooSmall) :=
  ⟨fun f e h => (layered_propagate_bin_error c bytes .TooSmall).1 f e (parse_too_small c e bytes h),
   fun h => (layered_propagate_bin_error c bytes .TooSmall).2 (parse_too_small c .little bytes h)⟩

/-- **Pack, accepted ⇒ everything declared fits**: the entry table of `file_count` records and the
range `file_address .. file_address + size` of every record are inside the buffer. -/
theorem pack_accepted_fits (c : Codec) (bytes : Bytes) (m : Fe9Arc.Files)
    (h : Fe9Arc.parse c bytes = .ok m) :
    ∃ n, word bytes 4 2 = some n ∧ (n = 0 ∨ 8 + 16 * n ≤ bytes.length) ∧
      ∀ i, i < n → ∀ fa sz, word bytes (8 + 16 * i + 8) 4 = some fa →
        word bytes (8 + 16 * i + 12) 4 = some sz → fa + sz ≤ bytes.length := by
  obtain ⟨n, hn, hfit, hall⟩ := pack_ok_bounds h
  refine ⟨n, hn, hfit, fun i hi fa sz hfa hsz => ?_⟩
  have := hall i hi
  simp only [PackLemmas.entryOf, Nat.add_assoc] at this
  simp only [Nat.add_assoc] at hfa hsz
  rw [hfa, hsz] at this
  exact this

/-- **No overflow in the pack range**: `file_address + size` is a sum of two 32-bit words formed
in `usize`; it cannot wrap in either profile. -/
theorem pack_range_no_overflow (bytes : Bytes) (o1 o2 fa sz : Nat)
    (hfa : word bytes o1 4 = some fa) (hsz : word bytes o2 4 = some sz) : fa + sz < 2 ^ 64 := by
  have := word4_lt hfa
  have := word4_lt hsz
  omega

/-- **Pack entry**: a record (among the declared `file_count`) whose `file_address + size` exceeds
the buffer makes `parse` return an error (and nothing is allocated for it: the pack parser makes no
sized request at all, `requests_bounded`). -/
theorem pack_rejects_overdeclared_file (c : Codec) (bytes : Bytes) (n i fa sz : Nat)
    (hn : word bytes 4 2 = some n) (hi : i < n)
    (hfa : word bytes (8 + 16 * i + 8) 4 = some fa) (hsz : word bytes (8 + 16 * i + 12) 4 = some sz)
    (h : fa + sz > bytes.length) : ∃ x, Fe9Arc.parse c bytes = .err x := by
  apply Res.err_of_not_ok (pack_total c bytes)
  intro m hm
  obtain ⟨n', hn', _, hall⟩ := pack_accepted_fits c bytes m hm
  rw [hn] at hn'
  cases hn'
  have := hall i hi fa sz hfa hsz
  omega

/-- **Pack file count**: a declared (non-zero) file count whose 16-byte-per-record entry table does
not fit in the buffer makes `parse` return an error. -/
theorem pack_rejects_overdeclared_count (c : Codec) (bytes : Bytes) (n : Nat)
    (hn : word bytes 4 2 = some n) (h0 : 0 < n) (h : 8 + 16 * n > bytes.length) :
    ∃ x, Fe9Arc.parse c bytes = .err x := by
  apply Res.err_of_not_ok (pack_total c bytes)
  intro m hm
  obtain ⟨n', hn', hfit, _⟩ := pack_accepted_fits c bytes m hm
  rw [hn] at hn'
  cases hn'
  omega

/-! ## 4. Accepted values re-serialise without panicking -/

/-- `BinArchive::serialize` never panics — on **any** archive value, with any codec. -/
theorem bin_serialize_total (c : Codec) (a : BinArchive) : BinArchive.serialize c a ≠ .panic :=
  ParsersLemmas.bin_serialize_total c a

/-- … in particular on whatever `from_bytes` accepted. -/
theorem bin_reserialize (c c' : Codec) (e : Endian) (bytes : Bytes) (a : BinArchive)
    (_h : BinArchive.parse c e bytes = .ok a) : BinArchive.serialize c' a ≠ .panic :=
  bin_serialize_total c' a

/-- `TextArchive::serialize` never panics on any value (an unencodable title or message is
`EncodingFailed`). -/
theorem text_serialize_total (c : Codec) (t : TextArchive) : TextArchive.serialize c t ≠ .panic := by
  unfold TextArchive.serialize
  split
  · exact bin_serialize_total _ _
  · nofun
  · exact absurd ‹_› (text_buildArchive_total c t)

theorem text_reserialize (c c' : Codec) (f : TextFormat) (e : Endian) (bytes : Bytes) (t : TextArchive)
    (_h : TextArchive.fromBytes c bytes f e = .ok t) : TextArchive.serialize c' t ≠ .panic :=
  text_serialize_total c' t

/-- `fe9_arc::serialize` never panics on any file list; moreover its two indexed reads
`text_addresses[i]`, `file_info[i]` (fe9_arc.rs:95-97) are in range for every `i < len`: the name
loop and the file loop each produce exactly one element per file (the model's `getD` defaults are
never used). -/
theorem pack_serialize_total (c : Codec) (m : Fe9Arc.Files) :
    Fe9Arc.serialize c m ≠ .panic ∧
    (∀ hl rt addrs, Fe9Arc.nameLoop c hl m [] [] = .ok (rt, addrs) → addrs.length = m.length) ∧
    (∀ base next, (Fe9Arc.fileLoop base m next [] []).2.2.length = m.length) :=
  ⟨ParsersLemmas.pack_serialize_total c m,
   fun hl rt addrs h => by simpa using nameLoop_length c hl m [] [] h,
   fun base next => by simpa using fileLoop_length base m next [] []⟩

theorem pack_reserialize (c c' : Codec) (bytes : Bytes) (m : Fe9Arc.Files)
    (_h : Fe9Arc.parse c bytes = .ok m) : Fe9Arc.serialize c' m ≠ .panic :=
  (pack_serialize_total c' m).1

/-- **What the aset reader accepts**: every set has exactly 257 entries (label + 8 groups of 32
slots) — so `set[0]` exists. -/
theorem aset_accepted_shape (a : BinArchive) (f : Aset.ASetFile) (h : Aset.fromArchive a = .ok f) :
    ∀ s ∈ f.sets, s.length = 257 := by
  revert h
  fun_cases Aset.fromArchive a <;> intro h <;> cases h
  exact readSets_length _ _ [] nofun ‹_›

/-- `ASetFile::serialize` does not panic on a file without an empty set.  (It **does** panic on an
empty set — `&set[0]`, aset.rs:472 — and the model says so: `aset_serialize_empty_set_panics`.) -/
theorem aset_serialize_total_of_nonempty (c : Codec) (f : Aset.ASetFile) (h : ∀ s ∈ f.sets, s ≠ []) :
    Aset.serialize c f ≠ .panic := by
  unfold Aset.serialize
  split
  · exact bin_serialize_total _ _
  · nofun
  · exact absurd ‹_› (aset_build_total f h)

/-- The guard of the previous theorem is needed: a hand-made value with an empty set makes the
model's `serialize` panic, as the Rust does.  (Not reachable from bytes: `aset_accepted_shape`.) -/
theorem aset_serialize_empty_set_panics (c : Codec) (m : Option Str) :
    Aset.serialize c ⟨m, [], [[]]⟩ = .panic := by
  cases m <;> rfl

/-- **Aset**: whatever the reader accepted re-serialises without panicking. -/
theorem aset_reserialize (c c' : Codec) (bytes : Bytes) (f : Aset.ASetFile)
    (h : (BinArchive.parse c .little bytes).bind Aset.fromArchive = .ok f) :
    Aset.serialize c' f ≠ .panic := by
  cases hp : BinArchive.parse c .little bytes <;> rw [hp] at h <;> try cases h
  refine aset_serialize_total_of_nonempty c' f fun s hs h0 => ?_
  have := aset_accepted_shape _ f h s hs
  rw [h0] at this
  cases this

/-- `AssetBinary::serialize` never panics on any value. -/
theorem asset_serialize_total (c : Codec) (b : Asset.AssetBinary) : Asset.serialize c b ≠ .panic := by
  unfold Asset.serialize
  split
  · exact bin_serialize_total _ _
  · nofun
  · exact absurd ‹_› (asset_build_total b)

theorem asset_reserialize (c c' : Codec) (bytes : Bytes) (b : Asset.AssetBinary)
    (_h : (BinArchive.parse c .little bytes).bind Asset.fromArchive = .ok b) :
    Asset.serialize c' b ≠ .panic :=
  asset_serialize_total c' b

/-! ## Non-vacuity

Concrete accepted files for every entry point (so the hypotheses `… = .ok v` above are satisfiable
by non-trivial values) and concrete over-declared headers / entries (so are the rejection
hypotheses), evaluated in the kernel.  The codec is the identity (`enc = some`, `dec = id`). -/

private def idc : Codec := ⟨some, id⟩

/-- An 8-byte data region with a pointer `0 → 4`, the string "hi" at cell 4, label "L" at 0 and
label "M" at the end of the data; 71 bytes as `BinArchive::serialize` writes them. -/
private def binLE : Bytes :=
  [71, 0, 0, 0, 8, 0, 0, 0, 2, 0, 0, 0, 2, 0, 0, 0, 0, 0, 0, 0, 0, 0, 0, 0, 0, 0, 0, 0, 0, 0, 0, 0,
   4, 0, 0, 0, 36, 0, 0, 0,  0, 0, 0, 0, 4, 0, 0, 0,  0, 0, 0, 0, 0, 0, 0, 0, 8, 0, 0, 0, 2, 0, 0, 0,
   76, 0, 77, 0, 104, 105, 0]

private def binBE : Bytes :=
  [0, 0, 0, 71, 0, 0, 0, 8, 0, 0, 0, 2, 0, 0, 0, 2, 0, 0, 0, 0, 0, 0, 0, 0, 0, 0, 0, 0, 0, 0, 0, 0,
   0, 0, 0, 4, 0, 0, 0, 36,  0, 0, 0, 0, 0, 0, 0, 4,  0, 0, 0, 0, 0, 0, 0, 0, 0, 0, 0, 8, 0, 0, 0, 2,
   76, 0, 77, 0, 104, 105, 0]

private def binShows (r : Res BinArchive) : Bool :=
  match r with
  | .ok a => a.data == [4, 0, 0, 0, 36, 0, 0, 0] && a.pointers == [(0, 4)] && a.text == [(4, bs ['h', 'i'])]
      && a.labels == [(0, [bs ['L']]), (8, [bs ['M']])]
  | _ => false

/-- Both files are accepted with the expected content, the logged request is the data size 8, and
the header declares exactly the 64 bytes before the text pool. -/
example : binShows (BinArchive.parse idc .little binLE) = true ∧
    (BinArchive.parse idc .big binBE).isOk = true ∧
    Parsers.binRequests .little binLE = [8] ∧ Parsers.binRequests .big binBE = [8] ∧
    hdrDeclared .little binLE = 64 ∧ binLE.length = 71 := by
  decide +kernel

/-- Over-declared headers (the inputs of finding D6, DESIGN.md): `data_size = 0xFFFFFFF0,
pointer_count = 4` — a 32-bit sum would wrap to 0 — and `pointer_count = 0x40000000` — a 32-bit
`4·count` would wrap to 0.  Both satisfy the rejection hypotheses, in a 32-byte buffer; no request
is logged. -/
private def hdrD6a : Bytes := leBytes 4 0x20 ++ leBytes 4 0xFFFFFFF0 ++ leBytes 4 4 ++ List.replicate 20 0
private def hdrD6b : Bytes := leBytes 4 0x20 ++ leBytes 4 0 ++ leBytes 4 0x40000000 ++ List.replicate 20 0

example : BinArchive.parse idc .little hdrD6a = .err .TooSmall ∧
    BinArchive.parse idc .little hdrD6b = .err .TooSmall ∧
    Parsers.requests "aset" hdrD6a = [] ∧ Parsers.binRequests .little hdrD6b = [] :=
  ⟨bin_rejects_data_size idc .little hdrD6a (by decide +kernel),
   bin_rejects_pointer_count idc .little hdrD6b (by decide +kernel),
   by decide +kernel, by decide +kernel⟩

/-- A label count alone that does not fit (big-endian header, 40-byte buffer). -/
example : BinArchive.parse idc .big
    (beBytes 4 40 ++ beBytes 4 4 ++ beBytes 4 0 ++ beBytes 4 2 ++ List.replicate 24 0) = .err .TooSmall :=
  bin_rejects_label_count idc .big _ (by decide +kernel)

open ParsersFuel in
/-- Text archives: a legacy little-endian file with two entries (`k1 ↦ "abcd"`, `k2 ↦ ""`) and a
UTF-16 big-endian file with a title and one entry are accepted with that content. -/
example :
    (∃ t, TextArchive.fromBytes idc
        [66, 0, 0, 0, 12, 0, 0, 0, 0, 0, 0, 0, 2, 0, 0, 0, 0, 0, 0, 0, 0, 0, 0, 0, 0, 0, 0, 0, 0, 0, 0, 0,
         97, 98, 99, 100, 0, 0, 0, 0, 0, 0, 0, 0,  0, 0, 0, 0, 0, 0, 0, 0, 8, 0, 0, 0, 3, 0, 0, 0,
         107, 49, 0, 107, 50, 0] .shiftJIS .little = .ok t ∧
      (t.entries == [(bs ['k', '1'], bs ['a', 'b', 'c', 'd']), (bs ['k', '2'], [])]) = true) ∧
    (∃ t, TextArchive.fromBytes idc
        [0, 0, 0, 54, 0, 0, 0, 12, 0, 0, 0, 0, 0, 0, 0, 1, 0, 0, 0, 0, 0, 0, 0, 0, 0, 0, 0, 0, 0, 0, 0, 0,
         84, 0, 0, 0, 104, 0, 105, 0, 0, 0, 0, 0,  0, 0, 0, 4, 0, 0, 0, 0, 107, 0] .unicode .big = .ok t ∧
      (t.title == bs ['T'] && t.entries == [(bs ['k'], bs ['h', 'i'])]) = true) :=
  ⟨accepted_of_fuel_lit (textFuel_sound idc .shiftJIS .little 4) _ (by decide +kernel),
   accepted_of_fuel_lit (textFuel_sound idc .unicode .big 4) _ (by decide +kernel)⟩

/-- Arc: an unpadded archive with a `Count` cell (2), an `Info` table of two records — file `a`
with a 3-byte body, the empty file `b` — is accepted in both profiles. -/
private def arcImg : Bytes :=
  [111, 0, 0, 0, 40, 0, 0, 0, 2, 0, 0, 0, 2, 0, 0, 0, 0, 0, 0, 0, 0, 0, 0, 0, 0, 0, 0, 0, 0, 0, 0, 0,
   2, 0, 0, 0,  75, 0, 0, 0, 7, 0, 0, 0, 3, 0, 0, 0, 36, 0, 0, 0,  77, 0, 0, 0, 9, 0, 0, 0, 0, 0, 0, 0, 0, 0, 0, 0,
   10, 11, 12, 0,  4, 0, 0, 0, 20, 0, 0, 0,  0, 0, 0, 0, 0, 0, 0, 0, 4, 0, 0, 0, 6, 0, 0, 0,
   67, 111, 117, 110, 116, 0, 73, 110, 102, 111, 0, 97, 0, 98, 0]

example : Arc.fromBytes idc .checked arcImg = .ok [(bs ['a'], [10, 11, 12]), (bs ['b'], [])] ∧
    Arc.fromBytes idc .wrapping arcImg = .ok [(bs ['a'], [10, 11, 12]), (bs ['b'], [])] ∧
    Parsers.requests "arc" arcImg = [40] := by
  decide +kernel

/-- Pack: the library's image of two files parses back; a record declaring the size `0xFFFFFFFF`
(the input of finding D8) and a file count of 3 in a 24-byte buffer satisfy the rejection
hypotheses. -/
example :
    (∃ img, Fe9Arc.serialize idc [(bs ['a'], [1, 2, 3]), (bs ['b'], [])] = .ok img ∧
      Fe9Arc.parse idc img = .ok [(bs ['a'], [1, 2, 3]), (bs ['b'], [])]) ∧
    (∃ x, Fe9Arc.parse idc (beBytes 4 Fe9Arc.MAGIC ++ beBytes 2 1 ++ [0, 0]
        ++ [0, 0, 0, 0] ++ beBytes 4 24 ++ beBytes 4 26 ++ beBytes 4 0xFFFFFFFF ++ [97, 0, 1, 2]) = .err x) ∧
    (∃ x, Fe9Arc.parse idc (beBytes 4 Fe9Arc.MAGIC ++ beBytes 2 3 ++ [0, 0]
        ++ List.replicate 16 0) = .err x) :=
  ⟨⟨_, rfl, by decide +kernel⟩,
   pack_rejects_overdeclared_file idc _ 1 0 26 0xFFFFFFFF (by decide +kernel) (by decide)
     (by decide +kernel) (by decide +kernel) (by decide +kernel),
   pack_rejects_overdeclared_count idc _ 3 (by decide +kernel) (by decide) (by decide +kernel)⟩

/-- Aset: a file with two sets — one carrying a string in slot 32 (second group), one all-empty —
as the library writes it (1 120 bytes) is accepted, with both sets. -/
private def asetSample : Aset.ASetFile :=
  ⟨none, List.replicate 257 none,
   [none :: (List.replicate 31 none ++ [some (bs ['s'])] ++ List.replicate 224 none),
    List.replicate 257 none]⟩

open ParsersFuel in
example : ∃ img f, Aset.serialize idc asetSample = .ok img ∧
    (BinArchive.parse idc .little img).bind Aset.fromArchive = .ok f ∧ (f == asetSample) = true :=
  accepted_of_fuel (asetFuel_sound idc 3) _ (by
    rw [Aset.serialize, Aset.build]
    simp only [writeSets_eq]
    decide +kernel)

/-- Asset binary: one long record (strings 2 and 33, a colour, a NaN-payload f32, a u32) and one
all-absent record, 97 bytes as the library writes them, are accepted as two records. -/
private def assetImg : Bytes :=
  [97, 0, 0, 0, 48, 0, 0, 0, 3, 0, 0, 0, 0, 0, 0, 0, 0, 0, 0, 0, 0, 0, 0, 0, 0, 0, 0, 0, 0, 0, 0, 0,
   255, 255, 255, 255,  5, 0, 0, 0, 38, 0, 8, 0,  60, 0, 0, 0, 62, 0, 0, 0, 64, 0, 0, 0,
   3, 2, 1, 4, 1, 0, 192, 127, 239, 190, 173, 222,  0, 0, 0, 0, 0, 0, 0, 0,  0, 0, 0, 0,
   12, 0, 0, 0, 16, 0, 0, 0, 20, 0, 0, 0,  110, 0, 120, 0, 0]

open ParsersFuel in
example : ∃ b, (BinArchive.parse idc .little assetImg).bind Asset.fromArchive = .ok b ∧
    (b.flags == 0xFFFFFFFF && b.specs.length == 2 &&
      (b.specs.map (·.name)) == [some (bs ['n']), none]) = true :=
  accepted_of_fuel_lit (assetFuel_sound idc 4) _ (by decide +kernel)

end Mila.Props.C05
