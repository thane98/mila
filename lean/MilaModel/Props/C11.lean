/-
C11 — Decompression is correct on every conforming stream and errors on the rest.

Model: `Mila.Lz.decompressLz` (transcription of `decompress_lz`, src/lz13.rs:44-108) and the
entry points `decompress10`, `decompress13`, `Format.decompress`.  Specification:
`Mila.Spec.Lz` (tokens, `expand`, `Valid`, the byte grammar `Encodes`, `Conforms`).
-/
import MilaModel.Model.Lz
import MilaModel.Spec.LzStream
import MilaModel.Lemmas.LzDecode
import MilaModel.Lemmas.LzDecodeErr
import MilaModel.Lemmas.LzParse
import MilaModel.Lemmas.LzEncode

namespace Mila.Props.C11
open Mila Mila.Lz Mila.Spec.Lz

/-- Every conforming LZ10 (`ext = false`) or LZ11 (`ext = true`) stream — any valid token list:
overlapping copies, displacement 1, window edge, every LZ11 length form, arbitrary unused flag
bits, 32-bit extended header — is decoded to exactly the data it encodes. -/
theorem decode_conforming (ext : Bool) (toks : List Tok) (s : Bytes) (h : Conforms ext toks s) :
    decompressLz s = .ok (expand toks) :=
  decompressLz_conforms h

/-- Stated with the specification's encoder: for every valid token list and every choice of the
unused flag bits, the decoder returns the expansion of the encoded stream (so `decode_conforming`
is not vacuous for any valid token list). -/
theorem decode_encode (ext : Bool) (junk : UInt8) (toks : List Tok) (hv : Valid ext toks)
    (hb : (expand toks).size < (if ext then 2 ^ 32 else 2 ^ 24)) :
    decompressLz (encode ext junk toks) = .ok (expand toks) :=
  decode_conforming ext toks _ (encode_conforms ext junk toks hv hb)

/-- The LZ10 entry point and `CompressionFormat::LZ10` decode every conforming stream. -/
theorem lz10_decompress_conforming (ext : Bool) (toks : List Tok) (s : Bytes)
    (h : Conforms ext toks s) :
    decompress10 s = .ok (expand toks) ∧ Format.decompress .lz10 s = .ok (expand toks) := by
  simp [Format.decompress, decompress10, decode_conforming ext toks s h]

/-- The LZ13 entry point accepts a conforming stream bare … -/
theorem lz13_decompress_bare (ext : Bool) (toks : List Tok) (s : Bytes) (h : Conforms ext toks s) :
    decompress13 s = .ok (expand toks) ∧ Format.decompress .lz13 s = .ok (expand toks) :=
  ⟨decompress13_conforms h, decompress13_conforms h⟩

/-- … behind the 4-byte `0x13` wrapper (whatever its three length bytes) … -/
theorem lz13_decompress_wrapped (ext : Bool) (toks : List Tok) (s : Bytes) (a b c : UInt8)
    (h : Conforms ext toks s) :
    decompress13 (0x13 :: a :: b :: c :: s) = .ok (expand toks) ∧
      Format.decompress .lz13 (0x13 :: a :: b :: c :: s) = .ok (expand toks) := by
  have hd := decode_conforming ext toks _ h
  simp [Format.decompress, decompress13, hd]

/-- … and the type-0 stored form. -/
theorem lz13_decompress_stored (a b c : UInt8) (data : Bytes) :
    decompress13 (0 :: a :: b :: c :: data) = .ok data.toArray := by
  simp [decompress13]

/-- Empty input and input shorter than a header are errors at every entry point. -/
theorem decode_rejects_short (s : Bytes) (h : s.length < 4) :
    decompressLz s = .err .Invalid ∧ decompress10 s = .err .Invalid ∧ decompress13 s = .err .Invalid ∧
      ∀ fmt, Format.decompress fmt s = .err .Invalid := by
  have h1 := decompressLz_short s h
  have h2 : decompress10 s = .err .Invalid := by simp [decompress10, h1]
  have h3 : decompress13 s = .err .Invalid := by simp [decompress13, h]
  exact ⟨h1, h2, h3, fun fmt => by cases fmt <;> simp [Format.decompress, h2, h3]⟩

theorem decode_rejects_empty :
    decompress10 [] = .err .Invalid ∧ decompress13 [] = .err .Invalid :=
  ⟨(decode_rejects_short [] (by simp)).2.1, (decode_rejects_short [] (by simp)).2.2.1⟩

/-- An unknown type byte is an error: for the LZ10 entry point anything but 0x10/0x11, for the
LZ13 entry point anything but 0x00/0x10/0x11/0x13, and a 0x13 wrapper around an unknown type. -/
theorem decode_rejects_unknown_type (t : UInt8) (s : Bytes) (h10 : t ≠ 0x10) (h11 : t ≠ 0x11) :
    decompress10 (t :: s) = .err .Invalid ∧
      (t ≠ 0 → t ≠ 0x13 → decompress13 (t :: s) = .err .Invalid) ∧
      (∀ a b c, decompress13 (0x13 :: a :: b :: c :: t :: s) = .err .Invalid) := by
  have h1 := decompressLz_unknown_type t s h10 h11
  refine ⟨by simp [decompress10, h1], ?_, ?_⟩
  · intro h0 h13
    by_cases hs : (t :: s).length < 4
    · exact (decode_rejects_short _ hs).2.2.1
    · simp [decompress13, h0, h13, h1]
  · intro a b c
    simp [decompress13, h1]

/-- Every strict prefix of a conforming stream (bare or wrapped) is an error. -/
theorem decode_rejects_truncated (ext : Bool) (toks : List Tok) (s : Bytes) (h : Conforms ext toks s)
    (k : Nat) (hk : k < s.length) :
    decompress10 (s.take k) = .err .Invalid ∧ decompress13 (s.take k) = .err .Invalid ∧
      (∀ a b c j, j < 4 + s.length →
        decompress13 ((0x13 :: a :: b :: c :: s).take j) = .err .Invalid) := by
  have ht : ∀ k, k < s.length → decompressLz (s.take k) = .err .Invalid := fun k hk =>
    decompressLz_trunc ext _ toks s h.2.1 h.1 rfl h.2.2 k hk
  refine ⟨by simp [decompress10, ht k hk], ?_, ?_⟩
  · by_cases hk4 : (s.take k).length < 4
    · exact (decode_rejects_short _ hk4).2.2.1
    · obtain ⟨t, a, b, c, rest, rfl, h0, h13⟩ := conforms_shape h
      have hd := ht k hk
      obtain ⟨k', rfl⟩ : ∃ k', k = k' + 4 := ⟨k - 4, by simp at hk4; omega⟩
      simp only [List.take_succ_cons] at hd ⊢
      simp [decompress13, h0, h13, hd]
  · intro a b c j hj
    by_cases hj4 : j < 4
    · exact (decode_rejects_short _ (by simp; omega)).2.2.1
    · obtain ⟨j', rfl⟩ : ∃ j', j = j' + 4 := ⟨j - 4, by omega⟩
      have hd := ht j' (by omega)
      simp only [List.take_succ_cons]
      simp [decompress13, hd]

/-- A stream whose next token, after valid ones and before the announced length is reached, is a
reference that reaches back before the start of the output is an error (whatever follows it). -/
theorem decode_rejects_ref_before_start (ext : Bool) (n : Nat) (toks : List Tok) (len disp : Nat)
    (s : Bytes) (he : Encodes ext n (toks ++ [.ref len disp]) s) (hv : Valid ext toks)
    (hl : lenOk ext len) (hd1 : 1 ≤ disp) (hd2 : disp ≤ 4096)
    (hn : (expand toks).size < n) (hbad : (expand toks).size < disp)
    (hb : n < (if ext then 2 ^ 32 else 2 ^ 24)) :
    decompress10 s = .err .Invalid ∧
      (∀ a b c, decompress13 (0x13 :: a :: b :: c :: s) = .err .Invalid) := by
  have hd := decompressLz_badref ext n toks len disp s he hv hl hd1 hd2 hn hbad hb
  exact ⟨by simp [decompress10, hd], fun a b c => by simp [decompress13, hd]⟩

/-- No byte string makes any decompress entry point panic. -/
theorem decode_total (s : Bytes) :
    decompressLz s ≠ .panic ∧ decompress10 s ≠ .panic ∧ decompress13 s ≠ .panic ∧
      ∀ fmt, Format.decompress fmt s ≠ .panic := by
  have h1 : ∀ s, decompressLz s ≠ .panic := decompressLz_ne_panic
  have h2 : decompress10 s ≠ .panic := by
    unfold decompress10
    have := h1 s
    split <;> simp_all
  have h3 : decompress13 s ≠ .panic := by
    unfold decompress13
    split
    · simp
    · cases s with
      | nil => rename_i h; simp at h
      | cons b0 r =>
        dsimp only
        split
        · simp
        · have := h1 (if b0 = 0x13 then List.drop 4 (b0 :: r) else b0 :: r)
          split <;> simp_all
  exact ⟨h1 s, h2, h3, fun fmt => by cases fmt <;> simp [Format.decompress, h2, h3]⟩

/-- The independent parser used as oracle by the correspondence stream is sound for the grammar:
whatever it accepts is a conforming stream of the tokens it returns, and therefore the decoder
model returns exactly the parser's own expansion on it. -/
theorem parser_accepts_conforming (s : Bytes) (ext : Bool) (n : Nat) (toks : List Tok)
    (h : parse s = .ok (ext, n, toks)) :
    Conforms ext toks s ∧ (expand toks).size = n ∧ decompressLz s = .ok (expand toks) := by
  obtain ⟨hc, hn⟩ := parse_sound s ext n toks h
  exact ⟨hc, hn, decode_conforming ext toks s hc⟩

/-! Non-vacuity: a concrete conforming LZ10 stream (literal `a`, then an overlapping reference of
length 3 at displacement 1, junk in the unused flag bits). -/
private theorem demo_conforms :
    Conforms false [.lit 0x61, .ref 3 1] [0x10, 4, 0, 0, 0x5F, 0x61, 0x00, 0x00] := by
  refine ⟨by unfold Valid; decide, ⟨[0x5F, 0x61, 0x00, 0x00], by decide, ?_⟩, by decide⟩
  have := Groups.group (ext := false) 0x5F [.lit 0x61, .ref 3 1] [] [] (by simp) (by simp) (by simp)
    (by intro i h; match i, h with | 0, _ => rfl | 1, _ => rfl) Groups.nil
  simpa [tokBytes] using this

example : Conforms false [.lit 0x61, .ref 3 1] [0x10, 4, 0, 0, 0x5F, 0x61, 0x00, 0x00] :=
  demo_conforms

example : decompress10 [0x10, 4, 0, 0, 0x5F, 0x61, 0x00, 0x00] = .ok #[0x61, 0x61, 0x61, 0x61] := by
  rw [(lz10_decompress_conforming false _ _ demo_conforms).1]; decide

end Mila.Props.C11
